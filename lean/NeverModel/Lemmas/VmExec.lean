import NeverModel.Lemmas.VmKept
/-! What every handler of `exec` keeps, apart from the nine that transfer control or leave the running state. -/
namespace Never.Vm
open Never Never.Num

/-- the opcodes whose handlers set `ip`, switch frames or halt: JUMPZ, JUMP, MARK, CALL, SLIDE, CLEAR_STACK, RET, RETHROW, HALT -/
def isControl : Opc → Bool
  | .JUMPZ | .JUMP | .MARK | .CALL | .SLIDE | .CLEAR_STACK | .RET | .RETHROW | .HALT => true
  | _ => false

theorem isControl_cases {op : Opc} (h : isControl op = true) :
    op = .JUMPZ ∨ op = .JUMP ∨ op = .MARK ∨ op = .CALL ∨ op = .SLIDE ∨ op = .CLEAR_STACK ∨ op = .RET ∨ op = .RETHROW ∨ op = .HALT := by
  unfold isControl at h
  split at h <;> simp_all

variable {R : Vm → Vm → Prop} [Frame R]

variable [WrFrame R] [SpFrame R]

/-- every handler but the nine control handlers keeps every relation that the heap-level helpers, stack stores and changes of `sp`
keep, and closes no cell to stores -/
theorem exec_kept (md : Module) (ins : Instr) (orc : Oracle) (hc : isControl ins.op = false) : Kept [] R (exec md ins orc) := by
  unfold exec
  refine Kept.bind (Kept.of_rel rel_getSp) fun sp => ?_
  dsimp only
  iterate 7
    split
    · vm_kept
  split
  all_goals first
    | (rename_i hop; rw [hop] at hc; exact Bool.noConfusion hc)
    | vm_kept

omit [WrFrame R] in
/-- `JUMPZ` pops its condition and sets `ip` -/
theorem exec_jumpz_rel [IpFrame R] (md : Module) (ins : Instr) (orc : Oracle) (hop : ins.op = .JUMPZ) : Rel R (exec md ins orc) := by
  unfold exec
  simp only [hop, binOpOf, unOpOf, convOf, nilCmpOf, strAddOf, arrOpOf, mkArrayElem]
  vm_rel

end Never.Vm
