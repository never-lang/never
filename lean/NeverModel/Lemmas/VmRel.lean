import NeverModel.Model.Vm
import NeverModel.Lemmas.VmAttr
/-! Relational specifications over the VM monad `M`.  `Rel R f`: every completed run of `f` relates the machine it started on to the
machine it ends on by `R`.  The helpers of M-VM that work on the heap, the output and the run state (`objOf`, `getInt` … `matRows`)
change nothing else, so they satisfy every relation that is a preorder and closed under those updates (`Frame`); the stack
primitives, `JUMPZ` and a raw `setObj` need one more closure property each (`WrFrame`, `SpFrame`, `IpFrame`, `HeapFrame`).  Each
effect logic of the VM proofs is `Rel` of one relation. -/
namespace Never.Vm
open Never Never.Num

/-! ### runs of the monad's primitives -/

theorem run_bind_ok {α β} (f : M α) (g : α → M β) (vm vm'' : Vm) (b : β) :
    (f >>= g).run vm = .ok (b, vm'') ↔ ∃ a vm', f.run vm = .ok (a, vm') ∧ (g a).run vm' = .ok (b, vm'') := by
  simp only [StateT.run, bind, StateT.bind, Except.bind]
  cases h : f vm with
  | error e => simp
  | ok p =>
    obtain ⟨a, vm'⟩ := p
    simp only [Except.ok.injEq, Prod.mk.injEq]
    constructor
    · intro hg; exact ⟨a, vm', ⟨rfl, rfl⟩, hg⟩
    · rintro ⟨a1, v1, ⟨rfl, rfl⟩, hg⟩; exact hg

theorem run_bind_err {α β} (f : M α) (g : α → M β) (vm : Vm) (e : Stop) :
    (f >>= g).run vm = .error e ↔ f.run vm = .error e ∨ ∃ a vm', f.run vm = .ok (a, vm') ∧ (g a).run vm' = .error e := by
  simp only [StateT.run, bind, StateT.bind, Except.bind]
  cases h : f vm with
  | error e' => simp
  | ok p =>
    obtain ⟨a, vm'⟩ := p
    simp only [reduceCtorEq, false_or, Except.ok.injEq, Prod.mk.injEq]
    constructor
    · intro hg; exact ⟨a, vm', ⟨rfl, rfl⟩, hg⟩
    · rintro ⟨a1, v1, ⟨rfl, rfl⟩, hg⟩; exact hg

theorem run_pure_ok {α} (a : α) (vm vm' : Vm) (b : α) : (pure a : M α).run vm = .ok (b, vm') ↔ b = a ∧ vm' = vm := by
  simp only [StateT.run, pure, StateT.pure, Except.pure, Except.ok.injEq, Prod.mk.injEq]
  exact ⟨fun h => ⟨h.1.symm, h.2.symm⟩, fun h => ⟨h.1.symm, h.2.symm⟩⟩


/-! ### `Rel` -/

/-- every completed run of `f` relates the start machine to the end machine by `R` -/
def Rel {α} (R : Vm → Vm → Prop) (f : M α) : Prop := ∀ vm a vm', f.run vm = .ok (a, vm') → R vm vm'

/-- cell `a` holds an object -/
def Alive (vm : Vm) (a : Nat) : Prop := (vm.gc.mem.objAt a).isSome = true

/-- cell `a` may be stored to: it holds an object, or lies beyond the heap, where `Mem.setObj` does nothing -/
def Storable (vm : Vm) (a : Nat) : Prop := Alive vm a ∨ vm.gc.mem.size ≤ a

/-- a preorder on machines that holds across output, the line register, raising an exception or stopping, an allocation, and a store into a
cell that may be stored to: what the heap-level helpers of M-VM do -/
class Frame (R : Vm → Vm → Prop) : Prop where
  refl : ∀ vm, R vm vm
  trans : ∀ {a b c}, R a b → R b c → R a c
  out : ∀ vm o, R vm { vm with out := o }
  line : ∀ vm l, R vm { vm with line := l }
  stop : ∀ vm r e, r = 2 ∨ r = 3 → R vm { vm with running := r, exception := e }
  alloc : ∀ vm o g l, vm.gc.alloc o = some (g, l) → R vm { vm with gc := g }
  store : ∀ vm a o, Storable vm a → R vm { vm with gc := { vm.gc with mem := vm.gc.mem.setObj a (some o) } }

/-- `R` holds across a store into the stack array -/
class WrFrame (R : Vm → Vm → Prop) : Prop where
  wr : ∀ vm i s, R vm { vm with stack := vm.stack.setIfInBounds i s }

/-- `R` holds across a change of `sp` -/
class SpFrame (R : Vm → Vm → Prop) : Prop where
  sp : ∀ vm v, R vm { vm with sp := v }

/-- `R` holds across a change of `ip` -/
class IpFrame (R : Vm → Vm → Prop) : Prop where
  ip : ∀ vm v, R vm { vm with ip := v }

/-- `R` does not look at the heap -/
class HeapFrame (R : Vm → Vm → Prop) : Prop where
  heap : ∀ vm g, R vm { vm with gc := g }

variable {R : Vm → Vm → Prop} {α β : Type}

theorem Rel.mono {S : Vm → Vm → Prop} {f : M α} (h : Rel R f) (hRS : ∀ vm vm', R vm vm' → S vm vm') : Rel S f :=
  fun vm a vm' hr => hRS _ _ (h vm a vm' hr)

theorem Rel.pure [Frame R] (a : α) : Rel R (pure a : M α) := by
  intro vm b vm' h
  obtain ⟨_, rfl⟩ := (run_pure_ok a vm vm' b).mp h
  exact Frame.refl (R := R) _

theorem Rel.bind [Frame R] {f : M α} {g : α → M β} (hf : Rel R f) (hg : ∀ a, Rel R (g a)) : Rel R (f >>= g) := by
  intro vm b vm'' h
  obtain ⟨a, vm', h1, h2⟩ := (run_bind_ok f g vm vm'' b).mp h
  exact Frame.trans (hf vm a vm' h1) (hg a vm' b vm'' h2)

theorem Rel.crash (w : String) : Rel R (crash w : M α) := fun vm a vm' h => by cases h
theorem Rel.exit (w : String) (o : List UInt8) : Rel R (exitVm w o : M α) := fun vm a vm' h => by cases h

theorem Rel.get [Frame R] : Rel R (get : M Vm) := fun vm a vm' h => by cases h; exact Frame.refl (R := R) _

/-- the rest of a block may be judged with the machine read by `get` at hand -/
theorem Rel.get_bind {g : Vm → M β} (h : ∀ vm b vm', (g vm).run vm = .ok (b, vm') → R vm vm') : Rel R (MonadState.get >>= g) := by
  intro vm b vm'' hr
  obtain ⟨a, vm', h1, h2⟩ := (run_bind_ok MonadState.get g vm vm'' b).mp hr
  cases h1
  exact h _ _ _ h2

theorem Rel.modify (f : Vm → Vm) (hf : ∀ vm, R vm (f vm)) : Rel R (modify f : M PUnit) := fun vm a vm' h => by cases h; exact hf vm

attribute [vm_spec] Rel.pure Rel.crash Rel.exit Rel.get

/-- proves `Rel R f` for a block built from helpers whose specifications carry `@[vm_spec]` (or are hypotheses): at `>>=` both
sides, otherwise the specification, otherwise the branches of an `if` or `match`.  A node is never tried a second way, so a
block that does not satisfy `R` fails in time linear in its size. -/
syntax "vm_rel" : tactic
macro_rules
  | `(tactic| vm_rel) => `(tactic|
      first
      | (with_reducible refine Rel.bind ?_ (fun _ => ?_)) <;> vm_rel
      | (fail_if_success (with_reducible refine Rel.bind ?_ (fun _ => ?_))
         first
         | (simp only [vm_spec, implies_true]; done)
         | (with_reducible apply_assumption; done)
         | (split <;> vm_rel)
         | (fail_if_success split; dsimp only; vm_rel)))

/-! ### the helpers that work on heap, output and run state: every `Frame` -/
section
variable [Frame R]

@[vm_spec] theorem rel_rdSlot (i : Int) : Rel R (rdSlot i) := by unfold rdSlot; vm_rel
@[vm_spec] theorem rel_rdAddr (i : Int) : Rel R (rdAddr i) := by unfold rdAddr; vm_rel
@[vm_spec] theorem rel_getSp : Rel R getSp := by unfold getSp; vm_rel
@[vm_spec] theorem rel_checkStack : Rel R checkStack := by unfold checkStack; vm_rel
@[vm_spec] theorem rel_objOf (a : Nat) : Rel R (objOf a) := by unfold objOf; vm_rel

@[vm_spec] theorem rel_raised (e : Nat) : Rel R (modify fun vm => { vm with running := 2, exception := e } : M PUnit) :=
  Rel.modify _ fun vm => Frame.stop vm 2 e (.inl rfl)
@[vm_spec] theorem rel_raise (e : Nat) : Rel R (raise e) := rel_raised e
@[vm_spec] theorem rel_error : Rel R (modify fun vm => { vm with running := 3 } : M PUnit) :=
  Rel.modify _ fun vm => Frame.stop vm 3 vm.exception (.inr rfl)
@[vm_spec] theorem rel_emit (bs : List UInt8) : Rel R (emit bs) := Rel.modify _ fun vm => Frame.out vm _

@[vm_spec] theorem rel_alloc (o : Obj) : Rel R (alloc o) := by
  refine Rel.get_bind fun vm b vm' h => ?_
  split at h
  · cases h
  · cases h; exact Frame.alloc _ _ _ _ ‹_›

@[vm_spec] theorem rel_getInt (a : Nat) : Rel R (getInt a) := by unfold getInt; vm_rel
@[vm_spec] theorem rel_getLong (a : Nat) : Rel R (getLong a) := by unfold getLong; vm_rel
@[vm_spec] theorem rel_getFloat (a : Nat) : Rel R (getFloat a) := by unfold getFloat; vm_rel
@[vm_spec] theorem rel_getDouble (a : Nat) : Rel R (getDouble a) := by unfold getDouble; vm_rel
@[vm_spec] theorem rel_getChar (a : Nat) : Rel R (getChar a) := by unfold getChar; vm_rel
@[vm_spec] theorem rel_getStr (a : Nat) : Rel R (getStr a) := by unfold getStr; vm_rel
@[vm_spec] theorem rel_getStrRef (a : Nat) : Rel R (getStrRef a) := by unfold getStrRef; vm_rel
@[vm_spec] theorem rel_getVecRef (a : Nat) : Rel R (getVecRef a) := by unfold getVecRef; vm_rel
@[vm_spec] theorem rel_getArrRef (a : Nat) : Rel R (getArrRef a) := by unfold getArrRef; vm_rel
@[vm_spec] theorem rel_getVecObj (a : Nat) : Rel R (getVecObj a) := by unfold getVecObj; vm_rel
@[vm_spec] theorem rel_getArrObj (a : Nat) : Rel R (getArrObj a) := by unfold getArrObj; vm_rel
@[vm_spec] theorem rel_getFunc (a : Nat) : Rel R (getFunc a) := by unfold getFunc; vm_rel
@[vm_spec] theorem rel_getCPtr (a : Nat) : Rel R (getCPtr a) := by unfold getCPtr; vm_rel
@[vm_spec] theorem rel_getVec (a i : Nat) : Rel R (getVec a i) := by unfold getVec; vm_rel
@[vm_spec] theorem rel_getArrElem (a i : Nat) : Rel R (getArrElem a i) := by unfold getArrElem; vm_rel
@[vm_spec] theorem rel_scalarOf (ty : NTy) (a : Nat) : Rel R (scalarOf ty a) := by unfold scalarOf; cases ty <;> vm_rel
@[vm_spec] theorem rel_resOf (r : NRes) : Rel R (resOf r) := by unfold resOf; vm_rel
@[vm_spec] theorem rel_okVal (r : NRes) : Rel R (okVal r) := by unfold okVal; vm_rel
@[vm_spec] theorem rel_allocArr (e : List Nat) : Rel R (allocArr e) := by unfold allocArr; vm_rel
@[vm_spec] theorem rel_rangePair (r d : Nat) : Rel R (rangePair r d) := by unfold rangePair; vm_rel
@[vm_spec] theorem rel_feCheck (orc : Oracle) : Rel R (feCheck orc) := by unfold feCheck; vm_rel

end

/-- a read that succeeds only if cell `a` holds an object, and changes nothing -/
def Guard {α} (a : Nat) (f : M α) : Prop := ∀ vm b vm', f.run vm = .ok (b, vm') → vm' = vm ∧ Alive vm a

theorem guard_objOf (a : Nat) : Guard a (objOf a) := by
  intro vm o vm' h
  unfold objOf at h
  obtain ⟨v, v', h1, h2⟩ := (run_bind_ok _ _ _ _ _).mp h
  cases h1
  split at h2
  · cases h2
  · split at h2
    · rename_i ho; cases h2; exact ⟨rfl, by unfold Alive; rw [ho]; rfl⟩
    · cases h2

/-- a typed read: `objOf a`, then a tag test that returns or crashes -/
theorem Guard.typed (a : Nat) (k : Obj → M α) (hk : ∀ o vm b vm', (k o).run vm = .ok (b, vm') → vm' = vm) : Guard a (objOf a >>= k) := by
  intro vm b vm'' h
  obtain ⟨o, vm', h1, h2⟩ := (run_bind_ok _ k vm vm'' b).mp h
  obtain ⟨rfl, ha⟩ := guard_objOf a vm o vm' h1
  exact ⟨hk o _ _ _ h2, ha⟩

theorem guard_getInt (a : Nat) : Guard a (getInt a) := Guard.typed a _ fun o vm b vm' h => by split at h <;> cases h <;> rfl
theorem guard_getLong (a : Nat) : Guard a (getLong a) := Guard.typed a _ fun o vm b vm' h => by split at h <;> cases h <;> rfl
theorem guard_getFloat (a : Nat) : Guard a (getFloat a) := Guard.typed a _ fun o vm b vm' h => by split at h <;> cases h <;> rfl
theorem guard_getDouble (a : Nat) : Guard a (getDouble a) := Guard.typed a _ fun o vm b vm' h => by split at h <;> cases h <;> rfl
theorem guard_getChar (a : Nat) : Guard a (getChar a) := Guard.typed a _ fun o vm b vm' h => by split at h <;> cases h <;> rfl
theorem guard_getStr (a : Nat) : Guard a (getStr a) := Guard.typed a _ fun o vm b vm' h => by split at h <;> cases h <;> rfl
theorem guard_getStrRef (a : Nat) : Guard a (getStrRef a) := Guard.typed a _ fun o vm b vm' h => by split at h <;> cases h <;> rfl
theorem guard_getVecRef (a : Nat) : Guard a (getVecRef a) := Guard.typed a _ fun o vm b vm' h => by split at h <;> cases h <;> rfl
theorem guard_getArrRef (a : Nat) : Guard a (getArrRef a) := Guard.typed a _ fun o vm b vm' h => by split at h <;> cases h <;> rfl
theorem guard_getVecObj (a : Nat) : Guard a (getVecObj a) := Guard.typed a _ fun o vm b vm' h => by split at h <;> cases h <;> rfl
theorem guard_getArrObj (a : Nat) : Guard a (getArrObj a) := Guard.typed a _ fun o vm b vm' h => by split at h <;> cases h <;> rfl
theorem guard_getFunc (a : Nat) : Guard a (getFunc a) := Guard.typed a _ fun o vm b vm' h => by split at h <;> cases h <;> rfl
theorem guard_getCPtr (a : Nat) : Guard a (getCPtr a) := Guard.typed a _ fun o vm b vm' h => by split at h <;> cases h <;> rfl

/-- behind a successful read of cell `a` the rest runs on a machine with an object in `a` -/
theorem Rel.guard_bind {f : M α} {g : α → M β} {a : Nat} (hf : Guard a f)
    (hg : ∀ x vm b vm', Alive vm a → (g x).run vm = .ok (b, vm') → R vm vm') : Rel R (f >>= g) := by
  intro vm b vm'' h
  obtain ⟨x, vm', h1, h2⟩ := (run_bind_ok _ _ _ _ _).mp h
  obtain ⟨rfl, ha⟩ := hf _ _ _ h1
  exact hg x _ _ _ ha h2

section
variable [Frame R]

@[vm_spec] theorem rel_setVec (a i v : Nat) : Rel R (setVec a i v) :=
  Rel.guard_bind (guard_getVecObj a) fun fs vm b vm' ha h => by
    split at h
    · cases h; exact Frame.store _ _ _ (.inl ha)
    · cases h

@[vm_spec] theorem rel_setArrElem (a i v : Nat) : Rel R (setArrElem a i v) :=
  Rel.guard_bind (guard_getArrObj a) fun (dv, es) vm b vm' ha h => by
    dsimp only at h
    split at h
    · cases h; exact Frame.store _ _ _ (.inl ha)
    · cases h

/-- `Gc.appendArrElem` is a store into the cell it has found the array in -/
theorem rel_append (array obj : Nat) :
    Rel R (do let vm ← get
              match vm.gc.appendArrElem array obj with
              | some g => set { vm with gc := g }
              | none => crash "assert: append to a non 1-dimensional array" : M Unit) := by
  refine Rel.get_bind fun vm b vm' h => ?_
  split at h
  · rename_i g hg
    cases h
    unfold Gc.appendArrElem at hg
    split at hg
    · rename_i ho
      cases hg
      exact Frame.store vm array _ (.inl (by unfold Alive; rw [ho]; rfl))
    · cases hg
  · cases h

/-- the specification of the append step spans a `get >>= …`: it is looked up before the walker takes the block apart -/
macro_rules
  | `(tactic| vm_rel) => `(tactic| with_reducible_and_instances exact rel_append _ _)

@[vm_spec] theorem rel_line (l : Nat) : Rel R (modify fun vm => { vm with line := l } : M PUnit) := Rel.modify _ fun vm => Frame.line vm l

@[vm_spec] theorem rel_allocEach (o : Obj) (n : Nat) : Rel R (allocEach o n) := by
  induction n with
  | zero => unfold allocEach; vm_rel
  | succ n ih => unfold allocEach; vm_rel

@[vm_spec] theorem rel_mapElems (ty : NTy) (f : NVal → M NVal) (hf : ∀ v, Rel R (f v)) (es : List Nat) : Rel R (mapElems ty f es) := by
  induction es with
  | nil => unfold mapElems; vm_rel
  | cons e es ih => unfold mapElems; vm_rel

@[vm_spec] theorem rel_zipArith (ty : NTy) (bop : BinOp) (xs ys : List Nat) : Rel R (zipArith ty bop xs ys) := by
  induction xs generalizing ys with
  | nil => unfold zipArith; vm_rel
  | cons x xs ih => cases ys <;> unfold zipArith <;> vm_rel

@[vm_spec] theorem rel_dotSum (ty : NTy) (es1 es2 : List Nat) (i j inner cols k n : Nat) (acc : NVal) :
    Rel R (dotSum ty es1 es2 i j inner cols k n acc) := by
  induction n generalizing k acc with
  | zero => unfold dotSum; vm_rel
  | succ n ih => unfold dotSum; vm_rel

@[vm_spec] theorem rel_matCols (ty : NTy) (es1 es2 : List Nat) (mres i inner cols j m : Nat) :
    Rel R (matCols ty es1 es2 mres i inner cols j m) := by
  induction m generalizing j with
  | zero => unfold matCols; vm_rel
  | succ m ih => unfold matCols; vm_rel

@[vm_spec] theorem rel_matRows (ty : NTy) (es1 es2 : List Nat) (mres inner cols i n : Nat) :
    Rel R (matRows ty es1 es2 mres inner cols i n) := by
  induction n generalizing i with
  | zero => unfold matRows; vm_rel
  | succ n ih => unfold matRows; vm_rel

@[vm_spec] theorem rel_composeRanges (r1 r2 res d n : Nat) : Rel R (composeRanges r1 r2 res d n) := by
  induction n generalizing d with
  | zero => unfold composeRanges; vm_rel
  | succ n ih => unfold composeRanges; vm_rel

@[vm_spec] theorem rel_rangePairs (r d n : Nat) : Rel R (rangePairs r d n) := by
  induction n generalizing d with
  | zero => unfold rangePairs; vm_rel
  | succ n ih => unfold rangePairs; vm_rel

@[vm_spec] theorem rel_fillStrs (arr : Nat) (ss : List (List UInt8)) (i : Nat) : Rel R (fillStrs arr i ss) := by
  induction ss generalizing i with
  | nil => unfold fillStrs; vm_rel
  | cons s ss ih => unfold fillStrs; vm_rel
end

/-! ### the stack primitives -/

@[vm_spec] theorem rel_setSp [SpFrame R] (v : Int) : Rel R (setSp v) := Rel.modify _ fun vm => SpFrame.sp vm v

@[vm_spec] theorem rel_setIp [IpFrame R] (g : Vm → Nat) : Rel R (modify fun vm => { vm with ip := g vm } : M PUnit) :=
  Rel.modify _ fun vm => IpFrame.ip vm _

@[vm_spec] theorem rel_setObj [HeapFrame R] (a : Nat) (o : Obj) : Rel R (setObj a o) := Rel.modify _ fun vm => HeapFrame.heap vm _

@[vm_spec] theorem rel_wrSlot [WrFrame R] (i : Int) (s : Slot) : Rel R (wrSlot i s) := by
  refine Rel.get_bind fun vm b vm' h => ?_
  split at h
  · cases h
  · cases h; exact WrFrame.wr _ _ _

/-- what a successful `pushP` did: `sp` is one higher, checked against the stack size, and the slot there holds the address -/
theorem pushP_eq {vm vm' : Vm} {a : Nat} (h : pushP vm a = .ok vm') :
    vm.sp + 1 < vm.stackSize ∧ 0 ≤ vm.sp + 1 ∧
    vm' = { vm with sp := vm.sp + 1, stack := vm.stack.setIfInBounds (vm.sp + 1).toNat (.addr a) } := by
  unfold pushP checkP wrP at h
  simp only [bind, Except.bind] at h
  by_cases c1 : vm.sp + 1 ≥ vm.stackSize
  · simp [c1] at h
  · simp only [c1, if_false] at h
    split at h
    · cases h
    · cases h; exact ⟨by omega, by omega, rfl⟩

/-- a run of `pushAddr` is a successful `pushP` -/
theorem pushAddr_run {a : Nat} {vm vm' : Vm} {u : Unit} (h : (pushAddr a).run vm = .ok (u, vm')) : pushP vm a = .ok vm' := by
  unfold pushAddr at h
  obtain ⟨v, v', h1, h2⟩ := (run_bind_ok _ _ _ _ _).mp h
  cases h1
  obtain ⟨w, w', h3, h4⟩ := (run_bind_ok _ _ _ _ _).mp h2
  cases h4
  cases hp : pushP vm a with
  | error e => rw [hp] at h3; cases h3
  | ok x => rw [hp] at h3; cases h3; rfl

section
variable [Frame R]

section
variable [SpFrame R]

@[vm_spec] theorem rel_popAddrs (n : Nat) : Rel R (popAddrs n) := by
  induction n with
  | zero => unfold popAddrs; vm_rel
  | succ n ih => unfold popAddrs; vm_rel


@[vm_spec] theorem rel_popInts (n : Nat) : Rel R (popInts n) := by
  induction n with
  | zero => unfold popInts; vm_rel
  | succ n ih => unfold popInts; vm_rel


@[vm_spec] theorem rel_popExts (n : Nat) : Rel R (popExts n) := by
  induction n with
  | zero => unfold popExts; vm_rel
  | succ n ih => unfold popExts; vm_rel


@[vm_spec] theorem rel_popIndices (n : Nat) : Rel R (popIndices n) := by
  induction n with
  | zero => unfold popIndices; vm_rel
  | succ n ih => unfold popIndices; vm_rel


@[vm_spec] theorem rel_rangeDerefLoop (range array d n : Nat) : Rel R (rangeDerefLoop range array d n) := by
  induction n generalizing d with
  | zero => unfold rangeDerefLoop; vm_rel
  | succ n ih => unfold rangeDerefLoop; vm_rel

end

section
variable [WrFrame R]

@[vm_spec] theorem rel_unpackLoop (sp : Int) (fs : List Nat) (size i : Nat) : Rel R (unpackLoop sp fs size i) := by
  induction i with
  | zero => unfold unpackLoop; vm_rel
  | succ i ih => unfold unpackLoop; vm_rel


@[vm_spec] theorem rel_execUn (ty : NTy) (uop : UnOp) : Rel R (execUn ty uop) := by unfold execUn; vm_rel
@[vm_spec] theorem rel_execConv (src dst : NTy) : Rel R (execConv src dst) := by unfold execConv; vm_rel

variable [SpFrame R]

@[vm_spec] theorem rel_pushAddr (a : Nat) : Rel R (pushAddr a) := by
  intro vm u vm' h
  obtain ⟨_, _, rfl⟩ := pushP_eq (pushAddr_run h)
  exact Frame.trans (SpFrame.sp vm (vm.sp + 1)) (WrFrame.wr (R := R) { vm with sp := vm.sp + 1 } _ _)

@[vm_spec] theorem rel_allocLoop (n : Nat) : Rel R (allocLoop n) := by
  induction n with
  | zero => unfold allocLoop; vm_rel
  | succ n ih => unfold allocLoop; vm_rel


@[vm_spec] theorem rel_slideLoop (q n : Nat) : Rel R (slideLoop q n) := by
  induction n with
  | zero => unfold slideLoop; vm_rel
  | succ n ih => unfold slideLoop; vm_rel


@[vm_spec] theorem rel_pushParams (ps : List Param) : Rel R (pushParams ps) := by
  induction ps with
  | nil => unfold pushParams; vm_rel
  | cons p ps ih => unfold pushParams; vm_rel


@[vm_spec] theorem rel_execBin (ty : NTy) (bop : BinOp) : Rel R (execBin ty bop) := by unfold execBin; vm_rel



@[vm_spec] theorem rel_buildIn (id : Nat) (orc : Oracle) : Rel R (buildIn id orc) := by unfold buildIn; vm_rel

end
end
end Never.Vm
