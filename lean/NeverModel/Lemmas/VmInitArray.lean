import NeverModel.Model.Verify
import NeverModel.Model.VerifyRun
import NeverModel.Lemmas.VmFrameOps
import NeverModel.Lemmas.HeapBasic
import NeverModel.Lemmas.Index
set_option linter.unusedSimpArgs false
set_option linter.unusedVariables false
/-! stack-pointer movement of the two remaining data opcodes outside the verifier's table: PUSH_PARAM (pushes the entry
parameters) and MK_INIT_ARRAY (pops its constant extents, then one slot per element) -/
namespace Never.Vm
open Never Never.Num

/-! ### PUSH_PARAM -/

theorem keeps_fillStrs (arr : Nat) : ∀ (ss : List (List UInt8)) (i : Nat), KeepsSp (fillStrs arr i ss) := by
  intro ss
  induction ss with
  | nil => intro i; unfold fillStrs; keeps
  | cons s rest ih => intro i; unfold fillStrs; have := ih (i + 1); keeps

/-- `pushParams ps` pushes exactly one slot per parameter -/
theorem pushParams_mov : ∀ (ps : List Param) (s : Int), MovAt s (ps.length : Int) (pushParams ps) := by
  intro ps
  induction ps with
  | nil => intro s; unfold pushParams; exact MovAt.of_keeps (KeepsSp.pure _)
  | cons p rest ih =>
    intro s
    have tail : ∀ a : Nat, MovAt s ((rest.length : Int) + 1) (do pushAddr a; pushParams rest) := fun a =>
      MovAt.bind (pushAddr_mov _ _) (fun _ => ih _) (by omega)
    have hlen : (((p :: rest).length : Nat) : Int) = 0 + ((rest.length : Int) + 1) := by simp
    unfold pushParams
    cases p with
    | int v => exact MovAt.bind (MovAt.of_keeps (by keeps)) (fun a => by simpa using tail a) hlen
    | float b => exact MovAt.bind (MovAt.of_keeps (by keeps)) (fun a => by simpa using tail a) hlen
    | str st =>
      refine MovAt.bind (d1 := 0) (MovAt.of_keeps (by keeps)) (fun a => ?_) hlen
      exact MovAt.bind (d1 := 0) (MovAt.of_keeps (by keeps)) (fun a => by simpa using tail a) (by omega)
    | strArr ss =>
      refine MovAt.bind (d1 := 0) (MovAt.of_keeps (by keeps)) (fun a => ?_) hlen
      refine MovAt.bind (d1 := 0) (MovAt.of_keeps (keeps_fillStrs _ _ _)) (fun _ => ?_) (d2 := (rest.length : Int) + 1) (by omega)
      exact MovAt.bind (d1 := 0) (MovAt.of_keeps (by keeps)) (fun a => by simpa using tail a) (by omega)

theorem mov_PUSH_PARAM (md : Module) (ins : Instr) (orc : Oracle) (s : Int) (h : ins.op = .PUSH_PARAM) :
    MovAt s (md.params.length : Int) (exec md ins orc) := by
  unfold exec
  simp only [h, binOpOf, unOpOf, convOf, nilCmpOf, strAddOf, arrOpOf, mkArrayElem]
  refine MovAt.getSp_bind ?_
  have := pushParams_mov md.params.reverse s
  simpa using this

theorem kipop_PUSH_PARAM (md : Module) (ins : Instr) (orc : Oracle) (h : ins.op = .PUSH_PARAM) : KeepsIp (exec md ins orc) :=
  (exec_kept (R := SameIp) md ins orc (by rw [h]; rfl)).rel

/-! ### MK_INIT_ARRAY -/

theorem stackInts_congr (vm vm2 : Vm) (h1 : vm2.stackSize = vm.stackSize) (h2 : vm2.stack = vm.stack) (h3 : vm2.gc = vm.gc) :
    ∀ (n : Nat) (s : Int), stackInts vm2 n s = stackInts vm n s := by
  intro n
  induction n with
  | zero => intro s; rfl
  | succ n ih => intro s; unfold stackInts; rw [h1, h2, h3, ih]

theorem rdAddr_val {vm vm' : Vm} {i : Int} {a : Nat} (h : (rdAddr i).run vm = .ok (a, vm')) :
    ¬ (i < 0 ∨ i ≥ vm.stackSize) ∧ a = (vm.stack[i.toNat]?.getD .unknown).asAddr ∧ vm' = vm := by
  have hro := readOnly_rdAddr _ _ _ _ h
  unfold rdAddr rdSlot at h
  obtain ⟨s, v1, h1, h2⟩ := (run_bind_ok _ _ _ _ _).mp h
  obtain ⟨v0, v0', h3, h4⟩ := (run_bind_ok _ _ _ _ _).mp h1
  obtain ⟨e0, e0'⟩ := get_run _ _ _ h3
  subst e0 e0'
  split at h4
  · exact absurd h4 (crash_run _ _ _ _)
  · rename_i hb
    obtain ⟨e1, e1'⟩ := (run_pure_ok _ _ _ _).mp h4
    obtain ⟨e2, _⟩ := (run_pure_ok _ _ _ _).mp h2
    subst e1 e2
    exact ⟨hb, rfl, hro⟩

theorem objOf_val {vm vm' : Vm} {a : Nat} {o : Obj} (h : (objOf a).run vm = .ok (o, vm')) :
    ¬ (a > vm.gc.mem.size) ∧ vm.gc.mem.objAt a = some o ∧ vm' = vm := by
  have hro := readOnly_objOf _ _ _ _ h
  unfold objOf at h
  obtain ⟨v0, v0', h3, h4⟩ := (run_bind_ok _ _ _ _ _).mp h
  obtain ⟨e0, e0'⟩ := get_run _ _ _ h3
  subst e0 e0'
  split at h4
  · exact absurd h4 (crash_run _ _ _ _)
  · rename_i hb
    split at h4
    · rename_i o' ho
      obtain ⟨e1, _⟩ := (run_pure_ok _ _ _ _).mp h4
      subst e1
      exact ⟨hb, ho, hro⟩
    · exact absurd h4 (crash_run _ _ _ _)

theorem getInt_val {vm vm' : Vm} {a : Nat} {v : BitVec 32} (h : (getInt a).run vm = .ok (v, vm')) :
    ¬ (a > vm.gc.mem.size) ∧ vm.gc.mem.objAt a = some (.int v) ∧ vm' = vm := by
  unfold getInt at h
  obtain ⟨o, v1, h1, h2⟩ := (run_bind_ok _ _ _ _ _).mp h
  obtain ⟨b, ho, e⟩ := objOf_val h1
  subst e
  split at h2
  · obtain ⟨e1, e2⟩ := (run_pure_ok _ _ _ _).mp h2
    subst e1 e2
    exact ⟨b, ho, rfl⟩
  · exact absurd h2 (crash_run _ _ _ _)

/-- `popInts n` returns the integers the top `n` slots point at and changes nothing but `sp` -/
theorem popInts_reads : ∀ (n : Nat) (vm vm' : Vm) (l : List Int), (popInts n).run vm = .ok (l, vm') →
    stackInts vm n vm.sp = some l ∧ vm'.stack = vm.stack ∧ vm'.gc = vm.gc ∧ vm'.stackSize = vm.stackSize := by
  intro n
  induction n with
  | zero =>
    intro vm vm' l h
    unfold popInts at h
    obtain ⟨e1, e2⟩ := (run_pure_ok _ _ _ _).mp h
    subst e1 e2
    exact ⟨rfl, rfl, rfl, rfl⟩
  | succ n ih =>
    intro vm vm' l h
    unfold popInts at h
    obtain ⟨sp, v0, h0, h⟩ := (run_bind_ok _ _ _ _ _).mp h
    obtain ⟨e0, e0'⟩ := getSp_run _ _ _ h0
    rw [e0, e0'] at h
    obtain ⟨a, v1, h1, h⟩ := (run_bind_ok _ _ _ _ _).mp h
    obtain ⟨b1, ea, e1⟩ := rdAddr_val h1
    rw [e1] at h
    obtain ⟨v, v2, h2, h⟩ := (run_bind_ok _ _ _ _ _).mp h
    obtain ⟨b2, ev, e2⟩ := getInt_val h2
    rw [e2] at h
    obtain ⟨u, v3, h3, h⟩ := (run_bind_ok _ _ _ _ _).mp h
    have e3 := modify_run _ _ _ _ h3
    rw [e3] at h
    obtain ⟨rest, v4, h4, h⟩ := (run_bind_ok _ _ _ _ _).mp h
    obtain ⟨i1, i2, i3, i4⟩ := ih _ _ _ h4
    obtain ⟨e5, e6⟩ := (run_pure_ok _ _ _ _).mp h
    rw [e5, e6]
    simp only at i1 i2 i3 i4
    refine ⟨?_, i2, i3, i4⟩
    unfold stackInts
    rw [if_neg b1]
    simp only
    rw [← ea, if_neg b2, ev]
    simp only
    rw [← stackInts_congr vm { vm with sp := vm.sp - 1 } rfl rfl rfl, i1]
    rfl

/-- an object just allocated is the object read back at its address -/
theorem alloc_objOf {vm vm1 vm2 : Vm} {o o' : Obj} {loc : Nat} (h : (alloc o).run vm = .ok (loc, vm1))
    (h' : (objOf loc).run vm1 = .ok (o', vm2)) : o' = o := by
  obtain ⟨b, ho, _⟩ := objOf_val h'
  unfold alloc at h
  obtain ⟨v0, v0', h3, h4⟩ := (run_bind_ok _ _ _ _ _).mp h
  obtain ⟨e0, e0'⟩ := get_run _ _ _ h3
  rw [e0, e0'] at h4
  split at h4
  · exact absurd h4 (exitVm_run _ _ _ _ _)
  · rename_i g l hg
    obtain ⟨u, v1, h5, h6⟩ := (run_bind_ok _ _ _ _ _).mp h4
    have e5 := set_run _ _ _ _ h5
    obtain ⟨e6, e7⟩ := (run_pure_ok _ _ _ _).mp h6
    rw [e7, e5] at ho
    simp only at ho
    unfold Gc.alloc at hg
    simp only at hg
    split at hg
    · cases hg
    · have hmem : g.mem = vm.gc.mem.setObj vm.gc.free (some o) ∧ l = vm.gc.free := by
        split at hg <;> (cases hg; exact ⟨rfl, rfl⟩)
      rw [hmem.1, e6, hmem.2, Mem.objAt_setObj] at ho
      split at ho
      · cases ho; rfl
      · rename_i hn
        have hlt : ¬ vm.gc.free < vm.gc.mem.size := by intro hl; exact hn ⟨rfl, hl⟩
        rw [Mem.objAt_of_size_le (by omega)] at ho
        cases ho

theorem getArrObj_after_alloc {vm vm1 vm2 : Vm} {dv dv' : List (Nat × Nat)} {es es' : List Nat} {loc : Nat}
    (h : (alloc (.arr dv es)).run vm = .ok (loc, vm1)) (h' : (getArrObj loc).run vm1 = .ok ((dv', es'), vm2)) :
    dv' = dv ∧ es' = es := by
  unfold getArrObj at h'
  obtain ⟨o, v1, h1, h2⟩ := (run_bind_ok _ _ _ _ _).mp h'
  have := alloc_objOf h h1
  subst this
  simp only at h2
  obtain ⟨e1, _⟩ := (run_pure_ok _ _ _ _).mp h2
  cases e1
  exact ⟨rfl, rfl⟩


/-- **MK_INIT_ARRAY moves `sp` by what its extents say.**  If the top `dims` slots point at the integers `ds` (top first) and the
element count they give fits 32 bits, a completed handler has popped the `dims` extents and one slot per element and pushed the
array: `sp' = sp − dims − count + 1`; `fp`, `pp` and the stack size are untouched. -/
theorem exec_MK_INIT_ARRAY (md : Module) (ins : Instr) (orc : Oracle) (hop : ins.op = .MK_INIT_ARRAY) (vm vm' : Vm) (ds : List Int)
    (hpop : stackInts vm ins.w0 vm.sp = some ds) (hc : Ver.extsCount ds < 4294967296)
    (h : (exec md ins orc).run vm = .ok ((), vm')) :
    vm'.sp = vm.sp - (ins.w0 : Int) - (Ver.extsCount ds : Int) + 1 ∧ vm'.fp = vm.fp ∧ vm'.pp = vm.pp ∧ vm'.stackSize = vm.stackSize := by
  exec_unfold hop at h
  obtain ⟨sp, s0, h0, h⟩ := (run_bind_ok _ _ _ _ _).mp h
  obtain ⟨e0, e0'⟩ := getSp_run _ _ _ h0
  rw [e0'] at h
  obtain ⟨exts, v1, h1, h⟩ := (run_bind_ok _ _ _ _ _).mp h
  obtain ⟨a1, a2, a3, a4⟩ := popInts_mov ins.w0 vm.sp vm exts v1 rfl h1
  obtain ⟨r1, _, _, _⟩ := popInts_reads _ _ _ _ h1
  rw [hpop] at r1
  have eds : exts = ds := by cases r1; rfl
  obtain ⟨arr, v2, h2, h⟩ := (run_bind_ok _ _ _ _ _).mp h
  obtain ⟨b1, b2, b3, b4⟩ := rel_allocArr (R := SameRegs) _ _ _ _ h2
  have h2' : (alloc (.arr (Idx.dimMult (exts.map fun e => (e % 4294967296).toNat)).1
      (List.replicate (Idx.dimMult (exts.map fun e => (e % 4294967296).toNat)).2 0))).run v1 = .ok (arr, v2) := by
    simpa [allocArr] using h2
  obtain ⟨p, v3, h3, h⟩ := (run_bind_ok _ _ _ _ _).mp h
  obtain ⟨dv, es⟩ := p
  obtain ⟨c1, c2, c3, c4⟩ := rel_getArrObj (R := SameRegs) _ _ _ _ h3
  obtain ⟨_, ees⟩ := getArrObj_after_alloc h2' h3
  have hlen : es.length = Ver.extsCount ds := by
    rw [ees, List.length_replicate, Idx.dimMult_total, eds]
    exact Nat.mod_eq_of_lt hc
  simp only at h
  obtain ⟨elems, v4, h4, h⟩ := (run_bind_ok _ _ _ _ _).mp h
  obtain ⟨d1, d2, d3, d4⟩ := popAddrs_mov es.length v3.sp v3 elems v4 rfl h4
  obtain ⟨u5, v5, h5, h⟩ := (run_bind_ok _ _ _ _ _).mp h
  obtain ⟨f1, f2, f3, f4⟩ := rel_setObj (R := SameRegs) _ _ _ _ _ h5
  obtain ⟨s6, v6, h6, h⟩ := (run_bind_ok _ _ _ _ _).mp h
  obtain ⟨g1, g2⟩ := getSp_run _ _ _ h6
  rw [g1, g2] at h
  obtain ⟨u7, v7, h7, h⟩ := (run_bind_ok _ _ _ _ _).mp h
  obtain ⟨i1, i2, i3, i4, _⟩ := keeps_setSp_run _ _ _ _ h7
  obtain ⟨u8, v8, h8, h⟩ := (run_bind_ok _ _ _ _ _).mp h
  obtain ⟨j1, j2, j3, j4⟩ := rel_checkStack (R := SameRegs) _ _ _ h8
  obtain ⟨s9, v9, h9, h⟩ := (run_bind_ok _ _ _ _ _).mp h
  obtain ⟨k1, k2⟩ := getSp_run _ _ _ h9
  rw [k2] at h
  obtain ⟨r, v10, h10, h⟩ := (run_bind_ok _ _ _ _ _).mp h
  obtain ⟨l1, l2, l3, l4⟩ := rel_alloc (R := SameRegs) _ _ _ _ h10
  obtain ⟨m1, m2, m3, m4⟩ := rel_wrSlot (R := SameRegs) _ _ _ _ _ h
  refine ⟨by omega, by omega, by omega, by omega⟩

theorem kipop_MK_INIT_ARRAY (md : Module) (ins : Instr) (orc : Oracle) (h : ins.op = .MK_INIT_ARRAY) : KeepsIp (exec md ins orc) :=
  (exec_kept (R := SameIp) md ins orc (by rw [h]; rfl)).rel

end Never.Vm
