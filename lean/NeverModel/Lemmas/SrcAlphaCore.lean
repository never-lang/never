import NeverModel.Lemmas.SrcAlpha
namespace Never.Src

variable {ν : Ren}

/-- alpha-invariance of every evaluator function at fuel `n` -/
structure AlphaAt (ν : Ren) (n : Nat) : Prop where
  e : ∀ ctx env e, evalE n (rnCtx ν ctx) (rnEnv ν env) (rnE ν (names env) e) = evalE n ctx env e
  args : ∀ ctx env es, evalArgs n (rnCtx ν ctx) (rnEnv ν env) (rnEs ν (names env) es) = evalArgs n ctx env es
  seq : ∀ ctx env items, evalSeq n (rnCtx ν ctx) (rnEnv ν env) (rnItems ν (names env) items) = evalSeq n ctx env items
  whl : ∀ ctx env c b, evalWhile n (rnCtx ν ctx) (rnEnv ν env) (rnE ν (names env) c) (rnE ν (names env) b) = evalWhile n ctx env c b
  doWhl : ∀ ctx env b c, evalDoWhile n (rnCtx ν ctx) (rnEnv ν env) (rnE ν (names env) b) (rnE ν (names env) c) = evalDoWhile n ctx env b c
  for_ : ∀ ctx env c s b, evalFor n (rnCtx ν ctx) (rnEnv ν env) (rnE ν (names env) c) (rnE ν (names env) s) (rnE ν (names env) b) = evalFor n ctx env c s b
  forIn : ∀ ctx env x lc i b, evalForIn n (rnCtx ν ctx) (rnEnv ν env) (ν x env.length) lc i (rnE ν (x :: names env) b) = evalForIn n ctx env x lc i b
  call : ∀ ctx fid cells as, callClo n (rnCtx ν ctx) fid cells as = callClo n ctx fid cells as
  hdl : ∀ ctx env cs ex, handle n (rnCtx ν ctx) (rnEnv ν env) (rnCatches ν (names env) cs) ex = handle n ctx env cs ex
  guards : ∀ ctx env l gs, evalGuards n (rnCtx ν ctx) (rnEnv ν env) l (rnGuards ν (names env) gs) = evalGuards n ctx env l gs
  quals : ∀ ctx env qs body ty o, evalQuals n (rnCtx ν ctx) (rnEnv ν env) (rnQuals ν (names env) qs) (rnE ν (qualBinders qs ++ names env) body) ty o = evalQuals n ctx env qs body ty o
  gen : ∀ ctx env x lc i qs body ty o, evalGen n (rnCtx ν ctx) (rnEnv ν env) (ν x env.length) lc i (rnQuals ν (x :: names env) qs) (rnE ν (qualBinders qs ++ (x :: names env)) body) ty o = evalGen n ctx env x lc i qs body ty o
  forRng : ∀ ctx env x ao cur asc lt b, evalForRng n (rnCtx ν ctx) (rnEnv ν env) (ν x env.length) ao cur asc lt (rnE ν (x :: names env) b) = evalForRng n ctx env x ao cur asc lt b
  genRng : ∀ ctx env x ao cur asc lt qs body ty o, evalGenRng n (rnCtx ν ctx) (rnEnv ν env) (ν x env.length) ao cur asc lt (rnQuals ν (x :: names env) qs) (rnE ν (qualBinders qs ++ (x :: names env)) body) ty o = evalGenRng n ctx env x ao cur asc lt qs body ty o

/-- under one more binder `x`, bound to `l` -/
theorem AlphaAt.e_cons {n : Nat} (ih : AlphaAt ν n) (ctx : Ctx) (env : Env) (x : Name) (l : Loc) (b : Expr) :
    evalE n (rnCtx ν ctx) ((ν x env.length, l) :: rnEnv ν env) (rnE ν (x :: names env) b) = evalE n ctx ((x, l) :: env) b :=
  ih.e ctx ((x, l) :: env) b

theorem AlphaAt.quals_cons {n : Nat} (ih : AlphaAt ν n) (ctx : Ctx) (env : Env) (x : Name) (l : Loc) (qs : List Qual)
    (body : Expr) (ty : Ty) (o : Loc) :
    evalQuals n (rnCtx ν ctx) ((ν x env.length, l) :: rnEnv ν env) (rnQuals ν (x :: names env) qs)
      (rnE ν (qualBinders qs ++ (x :: names env)) body) ty o = evalQuals n ctx ((x, l) :: env) qs body ty o :=
  ih.quals ctx ((x, l) :: env) qs body ty o

theorem alpha_zero : AlphaAt ν 0 := by
  constructor <;> intros <;> simp only [evalE, evalArgs, evalSeq, evalWhile, evalDoWhile, evalFor, evalForIn, callClo, handle, evalGuards, evalQuals, evalGen, evalForRng, evalGenRng]

theorem alpha_e (hν : Adm ν) (n : Nat) (ih : AlphaAt ν n) (ctx : Ctx) (env : Env) (e : Expr) :
    evalE (n + 1) (rnCtx ν ctx) (rnEnv ν env) (rnE ν (names env) e) = evalE (n + 1) ctx env e := by
  cases e with
  | lit l => simp only [rnE, evalE]
  | var x | dimVar x => simp only [rnE, evalE, lookup_rn hν]
  | un op a | bin op a b | and a b | or a b | cond c t e | assign l r => simp only [rnE, evalE, ih.e]
  | seq items => simp only [rnE, evalE, ih.seq]
  | «while» c b => simp only [rnE, evalE, ih.whl]
  | doWhile b c => simp only [rnE, evalE, ih.doWhl]
  | «for» i c s b => simp only [rnE, evalE, ih.e, ih.for_]
  | forIn x coll b => simp only [rnE, evalE, ih.e, length_names, ih.forIn]
  | call f args | pipe l f args => simp only [rnE, evalE, ih.e, ih.args, ih.call]
  | builtin b args | arrLit dims args ty | arrNew args ty | tuple args | range args => simp only [rnE, evalE, ih.args]
  | lam fn =>
    obtain ⟨id, nm, ps, r, body, cs⟩ := fn
    by_cases hn : nm = ""
    · simp only [rnE, hn, if_true, evalE, rnF, Func.name, Func.id, locs_rnEnv]
    · have hne : ν nm (names env).length ≠ "" := hν.nonempty _ _
      simp only [rnE, hn, if_false, evalE, rnF, Func.name, Func.id, locs_rnEnv, hne]
  | index a idx | slice a idx => simp only [rnE, evalE, ih.e, ih.args]
  | record rn args | enumRec en it args => simp only [rnE, evalE, ih.args]; rfl
  | field e f => simp only [rnE, evalE, ih.e]; rfl
  | enumVal en it => simp only [rnE, evalE]; rfl
  | matchE e gs => simp only [rnE, evalE, ih.e, ih.guards]
  | ifLet g e els =>
    have h := fun l => ih.guards ctx env l [g, .els els]
    simp only [rnGuards, rnGuard] at h
    simp only [rnE, evalE, ih.e, h]
  | listcomp body quals ty => simp only [rnE, evalE, ih.quals]

theorem rnParams_length (d : Nat) (ps : List Param) : (rnParams ν d ps).length = ps.length := by
  induction ps generalizing d with
  | nil => rfl
  | cons p ps ih => simp [rnParams, ih]

theorem alpha_args (n : Nat) (ih : AlphaAt ν n) (ctx : Ctx) (env : Env) (es : List Expr) :
    evalArgs (n + 1) (rnCtx ν ctx) (rnEnv ν env) (rnEs ν (names env) es) = evalArgs (n + 1) ctx env es := by
  cases es with
  | nil => simp only [rnEs, evalArgs]
  | cons e es => simp only [rnEs, evalArgs, ih.args, ih.e]

theorem alpha_seq (n : Nat) (ih : AlphaAt ν n) (ctx : Ctx) (env : Env) (items : List Item) :
    evalSeq (n + 1) (rnCtx ν ctx) (rnEnv ν env) (rnItems ν (names env) items) = evalSeq (n + 1) ctx env items := by
  cases items with
  | nil => simp only [rnItems, evalSeq]
  | cons it rest =>
    cases it with
    | expr e =>
      cases rest with
      | nil => simp only [rnItems, evalSeq, ih.e]
      | cons it2 rest2 =>
        have h := ih.seq ctx env (it2 :: rest2)
        cases it2 <;> simp only [rnItems, evalSeq, ih.e] at h ⊢ <;> simp only [h]
    | bind v x e =>
      simp only [rnItems, evalSeq, ih.e, length_names]
      apply bind_congr
      intro l
      have := ih.seq ctx ((x, l) :: env) rest
      simpa [rnEnv_cons] using this
    | funcs fs =>
      simp only [rnItems, evalSeq, length_names]
      rw [allocGroup_rn, map_bind]
      refine bind_congr_post (allocGroup_names fs env) fun env' hn => ?_
      have := ih.seq ctx env' rest
      rw [hn] at this
      exact this

theorem alpha_call (n : Nat) (ih : AlphaAt ν n) (ctx : Ctx) (fid : Nat) (cells as : List Loc) :
    callClo (n + 1) (rnCtx ν ctx) fid cells as = callClo (n + 1) ctx fid cells as := by
  simp only [callClo, findFun_rn]
  cases hf : ctx.findFun fid with
  | none => rfl
  | some fn =>
    simp only [Option.map_some, rnEntry, rnParams_length]
    split
    · rfl
    · rw [mkEnv_rn, ← mkEnv_length fn.bs cells, bindParams_rn, map_bind]
      refine bind_congr_post (bindParams_names fn.params as _) fun env' hn => ?_
      rw [names_mkEnv] at hn
      have he := ih.e ctx env' fn.body
      have hh := ih.hdl ctx env' fn.catches
      rw [hn] at he hh
      simp only [he, hh]

theorem alpha_hdl (n : Nat) (ih : AlphaAt ν n) (ctx : Ctx) (env : Env) (cs : List Catch) (ex : Exc) :
    handle (n + 1) (rnCtx ν ctx) (rnEnv ν env) (rnCatches ν (names env) cs) ex = handle (n + 1) ctx env cs ex := by
  cases cs with
  | nil => simp only [rnCatches, handle]
  | cons c cs =>
    obtain ⟨cex, b⟩ := c
    simp only [rnCatches, handle, Catch.exc, Catch.body, ih.e, ih.hdl]
    rfl

theorem alpha_guards (n : Nat) (ih : AlphaAt ν n) (ctx : Ctx) (env : Env) (l : Loc) (gs : List Guard) :
    evalGuards (n + 1) (rnCtx ν ctx) (rnEnv ν env) l (rnGuards ν (names env) gs) = evalGuards (n + 1) ctx env l gs := by
  cases gs with
  | nil => simp only [rnGuards, evalGuards]
  | cons g gs =>
    cases g with
    | item en it b => simp only [rnGuards, rnGuard, evalGuards, ih.e, ih.guards]; rfl
    | els b => simp only [rnGuards, rnGuard, evalGuards, ih.e]
    | recd en it binds b =>
      have h1 : ∀ fields : List Loc, evalE n (rnCtx ν ctx) (bindNames (rnNames ν env.length binds) fields (rnEnv ν env))
          (rnE ν (binds.reverse ++ names env) b) = evalE n ctx (bindNames binds fields env) b := fun fields => by
        rw [bindNames_rn]
        have := ih.e ctx (bindNames binds fields env) b
        rw [names_bindNames] at this
        exact this
      simp only [rnGuards, rnGuard, evalGuards, length_names, h1, ih.guards]

theorem alpha_quals (n : Nat) (ih : AlphaAt ν n) (ctx : Ctx) (env : Env) (qs : List Qual) (body : Expr) (ty : Ty) (o : Loc) :
    evalQuals (n + 1) (rnCtx ν ctx) (rnEnv ν env) (rnQuals ν (names env) qs) (rnE ν (qualBinders qs ++ names env) body) ty o
      = evalQuals (n + 1) ctx env qs body ty o := by
  cases qs with
  | nil => simp only [rnQuals, qualBinders, List.nil_append, evalQuals, ih.e]
  | cons q qs =>
    cases q with
    | filter e => simp only [rnQuals, qualBinders, evalQuals, ih.e, ih.quals]
    | gen x coll =>
      simp only [rnQuals, qualBinders, List.append_assoc, List.singleton_append, evalQuals, ih.e, length_names, ih.gen]

theorem alphaAt (hν : Adm ν) : ∀ n, AlphaAt ν n
  | 0 => alpha_zero
  | n + 1 =>
    have ih := alphaAt hν n
    { e := alpha_e hν n ih
      args := alpha_args n ih
      seq := alpha_seq n ih
      whl := fun ctx env c b => by simp only [evalWhile, ih.e, ih.whl]
      doWhl := fun ctx env b c => by simp only [evalDoWhile, ih.e, ih.doWhl]
      for_ := fun ctx env c s b => by simp only [evalFor, ih.e, ih.for_]
      forIn := fun ctx env x lc i b => by simp only [evalForIn, ih.e_cons, ih.forIn, ih.forRng]
      call := alpha_call n ih
      hdl := alpha_hdl n ih
      guards := alpha_guards n ih
      quals := alpha_quals n ih
      gen := fun ctx env x lc i qs body ty o => by simp only [evalGen, ih.quals_cons, ih.gen, ih.genRng]
      forRng := fun ctx env x ao cur asc lt b => by simp only [evalForRng, ih.e_cons, ih.forRng]
      genRng := fun ctx env x ao cur asc lt qs body ty o => by simp only [evalGenRng, ih.quals_cons, ih.genRng] }

end Never.Src
