import NeverModel.Model.Num
/-! where the typed arithmetic handlers of M-Num trap (table-independent; used by C01 and C10) -/
namespace Never.Num

/-- the only trapping operand pairs of a typed binary handler -/
def TrapCase (ty : NTy) (op : BinOp) (a b : NVal) : Prop :=
  match ty, a, b with
  | .int, .int a, .int b =>
    ((op = .div ∨ op = .mod) ∧ a = intMin32 ∧ b = -1) ∨ ((op = .shl ∨ op = .shr) ∧ (b.toInt < 0 ∨ b.toInt ≥ 32))
  | .long, .long a, .long b =>
    ((op = .div ∨ op = .mod) ∧ a = intMin64 ∧ b = -1) ∨ ((op = .shl ∨ op = .shr) ∧ (b.toInt < 0 ∨ b.toInt ≥ 64))
  | _, _, _ => False

theorem binInt_trap (op : BinOp) (a b : BitVec 32) (w : String) (h : binInt op a b = .crash w) :
    ((op = .div ∨ op = .mod) ∧ a = intMin32 ∧ b = -1) ∨ ((op = .shl ∨ op = .shr) ∧ (b.toInt < 0 ∨ b.toInt ≥ 32)) := by
  cases op <;> try cases h
  case div | mod =>
    simp only [binInt] at h
    split at h
    · cases h
    · split at h
      · rename_i hm
        exact .inl ⟨by simp, hm⟩
      · cases h
  case shl | shr =>
    simp only [binInt] at h
    split at h
    · rename_i hc
      exact .inr ⟨by simp, hc⟩
    · cases h

theorem binLong_trap (op : BinOp) (a b : BitVec 64) (w : String) (h : binLong op a b = .crash w) :
    ((op = .div ∨ op = .mod) ∧ a = intMin64 ∧ b = -1) ∨ ((op = .shl ∨ op = .shr) ∧ (b.toInt < 0 ∨ b.toInt ≥ 64)) := by
  cases op <;> try cases h
  case div | mod =>
    simp only [binLong] at h
    split at h
    · cases h
    · split at h
      · rename_i hm
        exact .inl ⟨by simp, hm⟩
      · cases h
  case shl | shr =>
    simp only [binLong] at h
    split at h
    · rename_i hc
      exact .inr ⟨by simp, hc⟩
    · cases h

theorem binFloat_ne_crash (op : BinOp) (a b : BitVec 32) (w : String) : binFloat op a b ≠ .crash w := by
  intro h
  cases op <;> try cases h
  simp only [binFloat] at h
  split at h <;> cases h

theorem binDouble_ne_crash (op : BinOp) (a b : BitVec 64) (w : String) : binDouble op a b ≠ .crash w := by
  intro h
  cases op <;> try cases h
  simp only [binDouble] at h
  split at h <;> cases h

/-- a handler applied to an operand of another type fails on the tag -/
theorem bin_tag {ty : NTy} {a b : NVal} (op : BinOp) (h : ¬(a.ty = ty ∧ b.ty = ty)) : bin ty op a b = .tag := by
  cases ty <;> cases a <;> cases b <;> first | rfl | exact absurd ⟨rfl, rfl⟩ h

/-- a typed binary handler traps only on `TrapCase` -/
theorem bin_trap (ty : NTy) (op : BinOp) (a b : NVal) (w : String) (h : bin ty op a b = .crash w) : TrapCase ty op a b := by
  by_cases ht : a.ty = ty ∧ b.ty = ty
  · obtain ⟨rfl, hb⟩ := ht
    cases a <;> cases b <;> try cases hb
    · exact binInt_trap op _ _ w h
    · exact binLong_trap op _ _ w h
    · exact absurd h (binFloat_ne_crash op _ _ w)
    · exact absurd h (binDouble_ne_crash op _ _ w)
    · cases op <;> cases h
  · rw [bin_tag op ht] at h
    cases h

theorem un_conv_never_trap (a : NVal) (w : String) :
    (∀ ty op, un ty op a ≠ .crash w) ∧ (∀ s d, conv s d a ≠ .crash w) := by
  constructor
  · intro ty op h
    simp only [un] at h
    split at h <;> cases h
  · intro s d h
    simp only [conv] at h
    split at h <;> cases h

end Never.Num
