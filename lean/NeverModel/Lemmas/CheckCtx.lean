import NeverModel.Model.Check
set_option linter.unusedVariables false
/-!
# Contexts for M-Src `check`

A `Frame` is a one-level context `Expr → Expr` (one per child position that `tc` traverses);
`Frame.env Γ` replays exactly what `tc` does before it reaches the hole and returns the symbol
table in force there.  All propagation lemmas have one shape: if "what is done before the hole,
then the hole" fails with `d`, so does the whole (`bind_error_mono` is the step).
-/
namespace Never.Tc

@[simp] theorem bind_ok {ε α β} (a : α) (f : α → Except ε β) : (Except.ok a >>= f) = f a := rfl
@[simp] theorem bind_err {ε α β} (d : ε) (f : α → Except ε β) :
    ((Except.error d : Except ε α) >>= f) = Except.error d := rfl
@[simp] theorem pure_eq_ok {ε α} (a : α) : (pure a : Except ε α) = Except.ok a := rfl

theorem bind_eq_ok' {ε α β} {m : Except ε α} {f : α → Except ε β} {b : β} :
    (m >>= f) = .ok b ↔ ∃ a, m = .ok a ∧ f a = .ok b := by
  cases m <;> simp

theorem bind_eq_error' {ε α β} {m : Except ε α} {f : α → Except ε β} {d : ε} :
    (m >>= f) = .error d ↔ m = .error d ∨ ∃ a, m = .ok a ∧ f a = .error d := by
  cases m <;> simp

theorem bind_error {ε α β} {m : Except ε α} {g : α → Except ε β} {d : ε} (h : m = .error d) :
    (m >>= g) = .error d := by
  rw [h]; rfl

/-- if `m >>= f` fails, `m >>= g` fails with the same diagnostic, provided `g` fails wherever `f` does -/
theorem bind_error_mono {ε α β γ} {m : Except ε α} {f : α → Except ε β} {g : α → Except ε γ} {d : ε}
    (h : (m >>= f) = .error d) (hfg : ∀ a, m = .ok a → f a = .error d → g a = .error d) :
    (m >>= g) = .error d := by
  cases m with
  | error d' => cases h; rfl
  | ok a => exact hfg a rfl h

/-! ## appends on the AST's own list types -/

def ExprList.app : ExprList → ExprList → ExprList
  | .nil, r => r
  | .cons e t, r => .cons e (t.app r)
def SeqList.app : SeqList → SeqList → SeqList
  | .nil, r => r
  | .cons e t, r => .cons e (t.app r)
def GuardList.app : GuardList → GuardList → GuardList
  | .nil, r => r
  | .cons e t, r => .cons e (t.app r)
def QualList.app : QualList → QualList → QualList
  | .nil, r => r
  | .cons e t, r => .cons e (t.app r)
def FuncList.app : FuncList → FuncList → FuncList
  | .nil, r => r
  | .cons e t, r => .cons e (t.app r)
def ExcList.app : ExcList → ExcList → ExcList
  | .nil, r => r
  | .cons e t, r => .cons e (t.app r)

/-! ## arguments, rows of an array literal, bounds of a range / slice -/

theorem tcArgs_app (Γ : Env) (e : Expr) (post : ExprList) (d : Diag) : (pre : ExprList) →
    (tcArgs Γ pre >>= fun _ => tc Γ e) = .error d → tcArgs Γ (pre.app (.cons e post)) = .error d
  | .nil, h => bind_error h
  | .cons e' t, h => by
    simp only [tcArgs, bind_assoc, pure_bind] at h
    exact bind_error_mono h fun _ _ h => bind_error (tcArgs_app Γ e post d t h)

theorem tcRows_head (Γ : Env) (e : Expr) (post : ExprList) (d : Diag) (he : tc Γ e = .error d) :
    tcRows Γ (.cons e post) = .error d := by
  unfold tcRows
  split
  · rw [tc] at he
    exact bind_error (bind_error_mono he fun _ _ h => nomatch h)
  · exact bind_error (bind_error he)

theorem tcRows_app (Γ : Env) (e : Expr) (post : ExprList) (d : Diag) : (pre : ExprList) →
    (tcRows Γ pre >>= fun _ => tc Γ e) = .error d → tcRows Γ (pre.app (.cons e post)) = .error d
  | .nil, h => tcRows_head Γ e post d h
  | .cons e' t, h => by
    unfold tcRows at h
    unfold ExprList.app tcRows
    rw [bind_assoc] at h
    refine bind_error_mono h fun p _ h => ?_
    simp only [bind_assoc, pure_bind] at h
    exact bind_error (tcRows_app Γ e post d t h)

/-- `f1 .. t1, f2 .. t2, …` in front of `rest` -/
def flatPairs : List (Expr × Expr) → ExprList → ExprList
  | [], r => r
  | (f, t) :: ps, r => .cons f (.cons t (flatPairs ps r))


theorem tcBounds_flat (Γ : Env) (rest : ExprList) (d : Diag) : (ps : List (Expr × Expr)) →
    (tcBounds Γ (flatPairs ps .nil) >>= fun _ => tcBounds Γ rest) = .error d →
    tcBounds Γ (flatPairs ps rest) = .error d
  | [], h => h
  | (f, t) :: ps, h => by
    simp only [flatPairs, tcBounds, bind_assoc] at h ⊢
    refine bind_error_mono h fun cf _ h => bind_error_mono h fun ct _ h => ?_
    split
    · split
      · simp only [*, ↓reduceIte, bind_assoc, pure_bind] at h
        exact bind_error (tcBounds_flat Γ rest d ps h)
      · simpa only [*, Bool.false_eq_true, ↓reduceIte, bind_err] using h
    · simpa only [*, Bool.false_eq_true, ↓reduceIte, bind_err] using h

/-! ## sequences -/

/-- table after the items `pre` of a block (what `tcSeq` does to them) -/
def seqEnv (Γ : Env) : SeqList → Except Diag Env
  | .nil => .ok Γ
  | .cons (.bind ln v x e) rest => do
    let c ← tc Γ e
    if varOfConst v c then .error ⟨ln, .varFromConst⟩ else do
      let Γ' ← Γ.add ln x (.bind v c.ct)
      seqEnv Γ' rest
  | .cons (.funcs fs) rest => do
    let (Γ', ss) ← declFuncs Γ fs
    tcBodies Γ' fs ss
    seqEnv Γ' rest
  | .cons (.expr e) rest => do
    let _ ← tc Γ e
    seqEnv Γ rest

theorem tcSeq_app : (pre : SeqList) → (Γ : Env) → (rest : SeqList) → (d : Diag) →
    (seqEnv Γ pre >>= fun Γ' => tcSeq Γ' rest) = .error d → tcSeq Γ (pre.app rest) = .error d
  | .nil, _, _, _, h => h
  | .cons (.bind ln v x e) t, Γ, rest, d, h => by
    simp only [seqEnv, SeqList.app, tcSeq, bind_assoc] at h ⊢
    refine bind_error_mono h fun c _ h => ?_
    split
    · simpa only [*, Bool.false_eq_true, ↓reduceIte, bind_err] using h
    · simp only [*, Bool.false_eq_true, ↓reduceIte, bind_assoc] at h
      exact bind_error_mono h fun Γ1 _ h => tcSeq_app t Γ1 rest d h
  | .cons (.funcs fs) t, Γ, rest, d, h => by
    simp only [seqEnv, SeqList.app, tcSeq, bind_assoc] at h ⊢
    refine bind_error_mono h fun ⟨Γ1, ss⟩ _ h => ?_
    exact bind_error_mono h fun _ _ h => tcSeq_app t Γ1 rest d h
  | .cons (.expr e) t, Γ, rest, d, h => by
    simp only [seqEnv, SeqList.app, tcSeq, bind_assoc] at h ⊢
    exact bind_error_mono h fun _ _ h => bind_error (tcSeq_app t Γ rest d h)

/-! ## match guards -/

inductive GuardK
  | item (ln : Ln) (en it : String)
  | else_ (ln : Ln)

def GuardK.mk : GuardK → Expr → Guard
  | .item ln en it, e => .item ln en it e
  | .else_ ln, e => .else_ ln e

/-- the guard's own resolution, done before its arm is checked -/
def GuardK.pre (Γ : Env) : GuardK → Except Diag Unit
  | .item ln en it =>
    match Γ.lookup en with
    | none => .error ⟨ln, .matchGuardEnum⟩
    | some .enum => if Γ.hasItem en it then .ok () else .error ⟨ln, .matchGuardItem⟩
    | some _ => .error ⟨ln, .matchGuardNotEnum⟩
  | .else_ _ => .ok ()

/-- what `tcGuards` does with one guard before it goes on to the next: resolve it, for a record
guard count the binds and open their block, check the arm -/
def guardHead (Γ : Env) : Guard → Except Diag Comb
  | .item ln en it e => do
    guardItemPre Γ ln en it
    tc Γ e
  | .recd ln en it binds e => do
    guardItemPre Γ ln en it
    guardBindsOk Γ ln en it binds
    let Γb ← bindsEnv Γ en it binds
    tc Γb e
  | .else_ _ e => tc Γ e

theorem tcGuards_cons (Γ : Env) (g : Guard) (t : GuardList) :
    tcGuards Γ (.cons g t) = guardHead Γ g >>= fun c => tcGuards Γ t >>= fun cs => pure (c :: cs) := by
  cases g with
  | item ln en it e =>
    simp only [tcGuards, guardHead, guardItemPre]
    split <;> (try split) <;> rfl
  | recd ln en it binds e => simp only [tcGuards, guardHead, bind_assoc]
  | else_ ln e => rfl

theorem guardHead_mk (Γ : Env) (k : GuardK) (e : Expr) :
    guardHead Γ (k.mk e) = k.pre Γ >>= fun _ => tc Γ e := by
  cases k <;> rfl

theorem tcGuards_app (Γ : Env) (rest : GuardList) (d : Diag) : (pre : GuardList) →
    (tcGuards Γ pre >>= fun _ => tcGuards Γ rest) = .error d → tcGuards Γ (pre.app rest) = .error d
  | .nil, h => h
  | .cons g t, h => by
    simp only [GuardList.app, tcGuards_cons, bind_assoc, pure_bind] at h ⊢
    exact bind_error_mono h fun _ _ h => bind_error (tcGuards_app Γ rest d t h)

/-! ## comprehension qualifiers, catch clauses, runs of functions: the list functions distribute
over an append -/

inductive QualK
  | gen (ln : Ln) (x : String)
  | filter (ln : Ln)

def QualK.mk : QualK → Expr → Qual
  | .gen ln x, e => .gen ln x e
  | .filter ln, e => .filter ln e

theorem tcQuals_app : (pre : QualList) → (Γ : Env) → (rest : QualList) →
    tcQuals Γ (pre.app rest) = tcQuals Γ pre >>= fun Γ' => tcQuals Γ' rest
  | .nil, Γ, rest => rfl
  | .cons (.gen ln x e) t, Γ, rest => by
    simp only [QualList.app, tcQuals, bind_assoc]
    congr 1; funext c
    split
    · simp only [bind_assoc, tcQuals_app t]
    · rfl
  | .cons (.filter ln e) t, Γ, rest => by
    simp only [QualList.app, tcQuals, bind_assoc]
    congr 1; funext c
    split
    · exact tcQuals_app t Γ rest
    · rfl

theorem tcExcs_app (Γf : Env) (s : Sig) : (pre rest : ExcList) →
    tcExcs Γf s (pre.app rest) = tcExcs Γf s pre >>= fun _ => tcExcs Γf s rest
  | .nil, rest => rfl
  | .cons (.mk ln name body) t, rest => by
    simp only [ExcList.app, tcExcs]
    split
    · rfl
    · simp only [bind_assoc, tcExcs_app Γf s t rest]

theorem declFuncs_app : (fpre : FuncList) → (Γ : Env) → (rest : FuncList) →
    declFuncs Γ (fpre.app rest) =
      declFuncs Γ fpre >>= fun p => declFuncs p.1 rest >>= fun q => pure (q.1, p.2 ++ q.2)
  | .nil, Γ, rest => by
    simp only [FuncList.app, declFuncs, bind_ok, List.nil_append]
    cases declFuncs Γ rest <;> rfl
  | .cons f t, Γ, rest => by
    simp only [FuncList.app, declFuncs, bind_assoc, pure_bind, declFuncs_app t, List.cons_append]

def FuncList.length : FuncList → Nat
  | .nil => 0
  | .cons _ t => t.length + 1

theorem declFuncs_length : (fs : FuncList) → (Γ Γ' : Env) → (ss : List Sig) →
    declFuncs Γ fs = .ok (Γ', ss) → ss.length = fs.length
  | .nil, Γ, Γ', ss, h => by
    cases h; rfl
  | .cons f t, Γ, Γ', ss, h => by
    simp only [declFuncs, bind_eq_ok', pure_eq_ok, Except.ok.injEq, Prod.mk.injEq] at h
    obtain ⟨_, _, _, _, _, _, ⟨Γ3, ss'⟩, h4, _, rfl⟩ := h
    simp only [List.length_cons, FuncList.length, declFuncs_length t _ _ _ h4]

theorem tcBodies_app (Γ : Env) (rest : FuncList) (srest : List Sig) :
    (fpre : FuncList) → (spre : List Sig) → spre.length = fpre.length →
    tcBodies Γ (fpre.app rest) (spre ++ srest) = tcBodies Γ fpre spre >>= fun _ => tcBodies Γ rest srest
  | .nil, [], _ => rfl
  | .cons f t, sg :: ss, hl => by
    simp only [FuncList.app, List.cons_append, tcBodies, bind_assoc,
      tcBodies_app Γ rest srest t ss (Nat.succ.inj hl)]

/-! ## a function with a hole (in its body, or in the body of one catch clause) -/

inductive FuncHole
  | body (ln : Ln) (name : String) (ps : List Param) (rc : PCst) (rty : Ty) (excs : ExcList)
  | exc (ln : Ln) (name : String) (ps : List Param) (rc : PCst) (rty : Ty) (body : Expr)
        (xpre : ExcList) (xln : Ln) (xname : String) (xpost : ExcList)

def FuncHole.plug : FuncHole → Expr → Func
  | .body ln n ps rc rty excs, e => .mk ln n ps rc rty e excs
  | .exc ln n ps rc rty bd xpre xln xname xpost, e =>
    .mk ln n ps rc rty bd (xpre.app (.cons (.mk xln xname e) xpost))

def FuncHole.ln : FuncHole → Ln
  | .body ln .. => ln
  | .exc ln .. => ln
def FuncHole.name : FuncHole → String
  | .body _ n .. => n
  | .exc _ n .. => n
def FuncHole.params : FuncHole → List Param
  | .body _ _ ps .. => ps
  | .exc _ _ ps .. => ps
def FuncHole.rc : FuncHole → PCst
  | .body _ _ _ rc .. => rc
  | .exc _ _ _ rc .. => rc
def FuncHole.rty : FuncHole → Ty
  | .body _ _ _ _ rty _ => rty
  | .exc _ _ _ _ rty .. => rty

@[simp] theorem FuncHole.plug_ln (h : FuncHole) (e : Expr) : (h.plug e).ln = h.ln := by
  cases h <;> rfl
@[simp] theorem FuncHole.plug_name (h : FuncHole) (e : Expr) : (h.plug e).name = h.name := by
  cases h <;> rfl
@[simp] theorem FuncHole.plug_params (h : FuncHole) (e : Expr) : (h.plug e).params = h.params := by
  cases h <;> rfl
@[simp] theorem FuncHole.plug_rc (h : FuncHole) (e : Expr) : (h.plug e).rc = h.rc := by
  cases h <;> rfl
@[simp] theorem FuncHole.plug_rty (h : FuncHole) (e : Expr) : (h.plug e).rty = h.rty := by
  cases h <;> rfl

/-- what `tcRest` does, in the function's table, before it reaches the hole -/
def FuncHole.pre (Γf : Env) (s : Sig) : FuncHole → Except Diag Unit
  | .body _ _ _ _ _ excs => tcExcs Γf s excs
  | .exc _ _ _ _ _ _ xpre xln xname _ => do
    tcExcs Γf s xpre
    if unknownExc xname then .error ⟨xln, .unknownException⟩ else .ok ()

theorem FuncHole.plug_fails (Γf : Env) (s : Sig) (h : FuncHole) (e : Expr) (d : Diag)
    (hp : (h.pre Γf s >>= fun _ => tc Γf e) = .error d) : tcRest Γf s (h.plug e) = .error d := by
  cases h with
  | body ln n ps rc rty excs => exact bind_error_mono hp fun _ _ h => bind_error h
  | exc ln n ps rc rty bd xpre xln xname xpost =>
    simp only [FuncHole.pre, FuncHole.plug, tcRest, tcExcs_app, tcExcs, bind_assoc] at hp ⊢
    refine bind_error_mono hp fun _ _ h => bind_error ?_
    split
    · simp only [*, ↓reduceIte, bind_err] at h
      cases h
      rfl
    · simp only [*, Bool.false_eq_true, ↓reduceIte, bind_ok] at h
      exact bind_error h

/-- the declaration pass does not look at bodies -/
theorem declFuncs_plug (h : FuncHole) (e e' : Expr) (fpost : FuncList) (Γ : Env) :
    declFuncs Γ (.cons (h.plug e) fpost) = declFuncs Γ (.cons (h.plug e') fpost) := by
  simp only [declFuncs, FuncHole.plug_ln, FuncHole.plug_name, FuncHole.plug_params, FuncHole.plug_rc,
    FuncHole.plug_rty]

/-! ## frames -/

inductive Frame
  | enumVal (ln : Ln) (item : String)
  | un (ln : Ln) (op : UnOp)
  | binL (ln : Ln) (op : BinOp) (r : Expr)
  | binR (ln : Ln) (op : BinOp) (l : Expr)
  | sup (ln : Ln)
  | condC (ln : Ln) (t e : Expr)
  | condT (ln : Ln) (c e : Expr)
  | condE (ln : Ln) (c t : Expr)
  | assL (ln : Ln) (r : Expr)
  | assR (ln : Ln) (l : Expr)
  | whileC (ln : Ln) (b : Expr)
  | whileB (ln : Ln) (c : Expr)
  | forInA (ln : Ln) (x : String) (b : Expr)
  | forInB (ln : Ln) (x : String) (a : Expr)
  | callF (ln : Ln) (args : ExprList)
  | callA (ln : Ln) (f : Expr) (pre post : ExprList)
  | attr (ln : Ln) (fld : String)
  | matchS (ln : Ln) (gs : GuardList)
  | matchArm (ln : Ln) (s : Expr) (pre : GuardList) (k : GuardK) (post : GuardList)
  | arrayE (ln : Ln) (pre post : ExprList) (ec : PCst) (ety : Ty)
  | derefA (ln : Ln) (idx : ExprList)
  | derefI (ln : Ln) (a : Expr) (pre post : ExprList)
  | lcE (ln : Ln) (qs : QualList) (rc : PCst) (rty : Ty)
  | lcQ (ln : Ln) (e : Expr) (pre : QualList) (k : QualK) (post : QualList) (rc : PCst) (rty : Ty)
  | seqBind (ln : Ln) (pre : SeqList) (bln : Ln) (v : Bool) (x : String) (post : SeqList)
  | seqExpr (ln : Ln) (pre post : SeqList)
  | seqFunc (ln : Ln) (pre : SeqList) (fpre : FuncList) (h : FuncHole) (fpost : FuncList)
      (post : SeqList)
  | funcLit (h : FuncHole)
  -- D11 round 2: holes inside the new constructs
  | tupleE (ln : Ln) (pre post : ExprList) (ms : TyList)
  | projE (ln iln : Ln) (i : Nat)
  | rangeF (ln : Ln) (ps : List (Expr × Expr)) (t : Expr) (post : ExprList)
  | rangeT (ln : Ln) (ps : List (Expr × Expr)) (f : Expr) (post : ExprList)
  | sliceA (ln : Ln) (bounds : ExprList)
  | sliceF (ln : Ln) (a : Expr) (ps : List (Expr × Expr)) (t : Expr) (post : ExprList)
  | sliceT (ln : Ln) (a : Expr) (ps : List (Expr × Expr)) (f : Expr) (post : ExprList)
  | pipeL (ln : Ln) (f : Expr) (args : ExprList)
  | pipeF (ln : Ln) (l : Expr) (args : ExprList)
  | pipeA (ln : Ln) (l f : Expr) (pre post : ExprList)
  | subE (pre post : ExprList)
  | ifLetE (ln gln : Ln) (en it : String) (t f : Expr)
  | ifLetT (ln gln : Ln) (en it : String) (e f : Expr)
  | ifLetF (ln gln : Ln) (en it : String) (e t : Expr)

def Frame.plug : Frame → Expr → Expr
  | .enumVal ln item, x => .enumVal ln x item
  | .un ln op, x => .un ln op x
  | .binL ln op r, x => .bin ln op x r
  | .binR ln op l, x => .bin ln op l x
  | .sup ln, x => .sup ln x
  | .condC ln t e, x => .cond ln x t e
  | .condT ln c e, x => .cond ln c x e
  | .condE ln c t, x => .cond ln c t x
  | .assL ln r, x => .ass ln x r
  | .assR ln l, x => .ass ln l x
  | .whileC ln b, x => .while_ ln x b
  | .whileB ln c, x => .while_ ln c x
  | .forInA ln v b, x => .forIn ln v x b
  | .forInB ln v a, x => .forIn ln v a x
  | .callF ln args, x => .call ln x args
  | .callA ln f pre post, x => .call ln f (pre.app (.cons x post))
  | .attr ln fld, x => .attr ln x fld
  | .matchS ln gs, x => .match_ ln x gs
  | .matchArm ln s pre k post, x => .match_ ln s (pre.app (.cons (k.mk x) post))
  | .arrayE ln pre post ec ety, x => .array ln (pre.app (.cons x post)) ec ety
  | .derefA ln idx, x => .deref ln x idx
  | .derefI ln a pre post, x => .deref ln a (pre.app (.cons x post))
  | .lcE ln qs rc rty, x => .listcomp ln x qs rc rty
  | .lcQ ln e pre k post rc rty, x => .listcomp ln e (pre.app (.cons (k.mk x) post)) rc rty
  | .seqBind ln pre bln v n post, x => .seq ln (pre.app (.cons (.bind bln v n x) post))
  | .seqExpr ln pre post, x => .seq ln (pre.app (.cons (.expr x) post))
  | .seqFunc ln pre fpre h fpost post, x =>
    .seq ln (pre.app (.cons (.funcs (fpre.app (.cons (h.plug x) fpost))) post))
  | .funcLit h, x => .funcLit (h.plug x)
  | .tupleE ln pre post ms, x => .tuple ln (pre.app (.cons x post)) ms
  | .projE ln iln i, x => .proj ln x iln i
  | .rangeF ln ps t post, x => .range ln (flatPairs ps (.cons x (.cons t post)))
  | .rangeT ln ps f post, x => .range ln (flatPairs ps (.cons f (.cons x post)))
  | .sliceA ln bounds, x => .slice ln x bounds
  | .sliceF ln a ps t post, x => .slice ln a (flatPairs ps (.cons x (.cons t post)))
  | .sliceT ln a ps f post, x => .slice ln a (flatPairs ps (.cons f (.cons x post)))
  | .pipeL ln f args, x => .pipe ln x f args
  | .pipeF ln l args, x => .pipe ln l x args
  | .pipeA ln l f pre post, x => .pipe ln l f (pre.app (.cons x post))
  | .subE pre post, x => .sub (pre.app (.cons x post))
  | .ifLetE ln gln en it t f, x => .ifLet ln gln en it x t f
  | .ifLetT ln gln en it e f, x => .ifLet ln gln en it e x f
  | .ifLetF ln gln en it e t, x => .ifLet ln gln en it e t x

/-- the symbol table in force at the hole, computed by replaying what `tc` does before it gets
there; an error means `tc` stops before the hole with that very diagnostic -/
def Frame.env (Γ : Env) : Frame → Except Diag Env
  | .enumVal _ _ => .ok Γ
  | .un _ _ => .ok Γ
  | .binL _ _ _ => .ok Γ
  | .binR _ _ l => do let _ ← tc Γ l; pure Γ
  | .sup _ => .ok Γ
  | .condC _ _ _ => .ok Γ
  | .condT _ c _ => do let _ ← tc Γ c; pure Γ
  | .condE _ c t => do let _ ← tc Γ c; let _ ← tc Γ t; pure Γ
  | .assL _ _ => .ok Γ
  | .assR _ l => do let _ ← tc Γ l; pure Γ
  | .whileC _ _ => .ok Γ
  | .whileB _ c => do let _ ← tc Γ c; pure Γ
  | .forInA _ _ _ => .ok Γ
  | .forInB ln x a => do
    let ca ← tc Γ a
    match forinIter ca with
    | some it => pure (Γ.push [(x, .forin it)])
    | none => .error ⟨ln, .forinNotArray⟩
  | .callF _ _ => .ok Γ
  | .callA _ f pre _ => do let _ ← tc Γ f; let _ ← tcArgs Γ pre; pure Γ
  | .attr _ _ => .ok Γ
  | .matchS _ _ => .ok Γ
  | .matchArm _ s pre k _ => do
    let cs ← tc Γ s
    match cs.ct with
    | .val (.enum _) => do
      let _ ← tcGuards Γ pre
      k.pre Γ
      pure Γ
    | _ => .error ⟨s.ln, .matchNotEnum⟩
  | .arrayE _ pre _ _ _ => do let _ ← tcRows Γ pre; pure Γ
  | .derefA _ _ => .ok Γ
  | .derefI _ a pre _ => do let _ ← tc Γ a; let _ ← tcArgs Γ pre; pure Γ
  | .lcE _ qs _ _ => tcQuals Γ.push qs
  | .lcQ _ _ pre _ _ _ _ => tcQuals Γ.push pre
  | .seqBind _ pre _ _ _ _ => seqEnv Γ.push pre
  | .seqExpr _ pre _ => seqEnv Γ.push pre
  | .seqFunc _ pre fpre h fpost _ => do
    let Γ1 ← seqEnv Γ.push pre
    let (Γa, spre) ← declFuncs Γ1 fpre
    let (Γ2, srest) ← declFuncs Γa (.cons (h.plug default) fpost)
    match srest with
    | s :: _ => do
      tcBodies Γ2 fpre spre
      h.pre (funcEnv Γ2 h.name s) s
      pure (funcEnv Γ2 h.name s)
    | [] => .ok Γ2
  | .funcLit h => do
    let s ← declFunc Γ h.name h.params h.rc h.rty
    h.pre (funcEnv Γ h.name s) s
    pure (funcEnv Γ h.name s)
  | .tupleE _ pre _ _ => do let _ ← tcArgs Γ pre; pure Γ
  | .projE _ _ _ => .ok Γ
  | .rangeF _ ps _ _ => do let _ ← tcBounds Γ (flatPairs ps .nil); pure Γ
  | .rangeT _ ps f _ => do let _ ← tcBounds Γ (flatPairs ps .nil); let _ ← tc Γ f; pure Γ
  | .sliceA _ _ => .ok Γ
  | .sliceF _ a ps _ _ => do let _ ← tc Γ a; let _ ← tcBounds Γ (flatPairs ps .nil); pure Γ
  | .sliceT _ a ps f _ => do
    let _ ← tc Γ a; let _ ← tcBounds Γ (flatPairs ps .nil); let _ ← tc Γ f; pure Γ
  | .pipeL _ _ _ => .ok Γ
  | .pipeF _ l _ => do let _ ← tc Γ l; pure Γ
  | .pipeA _ l f pre _ => do let _ ← tc Γ l; let _ ← tc Γ f; let _ ← tcArgs Γ pre; pure Γ
  | .subE pre _ => do let _ ← tcRows Γ pre; pure Γ
  | .ifLetE _ _ _ _ _ _ => .ok Γ
  | .ifLetT _ gln en it e _ => do
    let ce ← tc Γ e
    match ce.ct with
    | .val (.enum _) => do guardItemPre Γ gln en it; pure Γ
    | _ => .error ⟨e.ln, .matchNotEnum⟩
  | .ifLetF _ gln en it e t => do
    let ce ← tc Γ e
    match ce.ct with
    | .val (.enum _) => do guardItemPre Γ gln en it; let _ ← tc Γ t; pure Γ
    | _ => .error ⟨e.ln, .matchNotEnum⟩

end Never.Tc
