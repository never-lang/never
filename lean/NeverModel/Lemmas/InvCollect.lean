import NeverModel.Lemmas.Inv
set_option linter.unusedSimpArgs false
set_option linter.unusedVariables false
/-! a whole collection (mark phase + sweep) preserves the invariant and keeps exactly the live cells -/
namespace Never
open Mem

/-- on a consistent heap the mark phase is defined and marks exactly the live cells -/
theorem markPhase_live {g : Gc} {fl : List Nat} {st : List Slot} {gp : Nat} (inv : InvL g fl)
    (hs : st.all (slotOk g.mem) = true) (hg : gp < g.mem.size) :
    ∃ m', markPhase g.fuel g.mem st gp = some m' ∧ MarkSpec g.mem m' (allRoots st gp) ∧
      ∀ x, marked m' x = true ↔ Live g.mem (allRoots st gp) x := by
  have hfuel : 2 * U g.mem + 3 ≤ g.fuel := by have := U_le_size g.mem; unfold Gc.fuel; omega
  have htot := markPhase_total (f := g.fuel) (st := st) (gp := gp) inv.wk hs hg hfuel
  cases hmp : markPhase g.fuel g.mem st gp with
  | none => simp [hmp] at htot
  | some m' => exact ⟨m', rfl, markPhase_spec hmp, marked_iff_live (markPhase_spec hmp) inv.unmarked inv.nil_none⟩

theorem collect_spec {g : Gc} {fl : List Nat} {st : List Slot} {gp : Nat} (inv : InvL g fl)
    (hs : st.all (slotOk g.mem) = true) (hg : gp < g.mem.size) :
    ∃ g', g.collect st gp = some g' ∧
      Inv g' ∧
      (∀ x, (objAt g'.mem x).isSome = true ↔ Live g.mem (allRoots st gp) x) ∧
      (∀ x, Live g.mem (allRoots st gp) x → objAt g'.mem x = objAt g.mem x) ∧
      (∀ x, x ∈ g'.cur ↔ x ∈ g.cur ∧ Live g.mem (allRoots st gp) x) ∧
      g'.mem.size = g.mem.size := by
  obtain ⟨m', hmp, sp, live⟩ := markPhase_live inv hs hg
  obtain ⟨fl', hcur, hobj, hmarks, hsize⟩ := freeL_sweep inv.free sp.post.mono
  refine ⟨({ g with mem := m' } : Gc).sweep, by rw [collect_eq, hmp]; rfl, ?_⟩
  generalize ({ g with mem := m' } : Gc).sweep = g' at fl' hcur hobj hmarks hsize ⊢
  have hexact : ∀ x, (objAt g'.mem x).isSome = true ↔ Live g.mem (allRoots st gp) x := by
    intro x
    rw [hobj x, ← live x]
    cases hm : marked m' x
    · simp
    · simpa using ((live x).mp hm).2.1
  refine ⟨⟨_, fl'.inv ?_ (hsize ▸ inv.pos) ?_⟩, hexact, ?_, ?_, hsize⟩
  · intro x
    rw [hmarks x]
    split
    · rfl
    · rename_i hc
      cases hm : marked m' x
      · rfl
      · exact absurd ((inv.cur_alloc x).mpr ((live x).mp hm).2.1) hc
  · -- survivors' references survive
    intro a o ho
    rw [hobj a] at ho
    split at ho
    · rename_i hm
      apply okObj_of_refs_eq o _ (inv.wk a o ho)
      intro p hp hp0 hps
      rcases sp.post.closed a hm (inv.unmarked a) o (by rw [sp.post.mono.obj]; exact ho) p hp with d | d | d
      · exact absurd d hp0
      · rw [sp.post.mono.obj] at d; exact (isSome_ne_none hps d).elim
      · rw [hobj p, if_pos d]
    · cases ho
  · intro x hx
    rw [hobj x, if_pos ((live x).mpr hx)]
  · intro x
    rw [hcur, List.mem_filter, ← live x]

/-- every well-typed operation preserves the heap invariant -/
theorem inv_apply {g g' : Gc} {op : Op} (inv : Inv g) (wt : g.wellTyped op = true)
    (h : g.apply op = some g') : Inv g' := by
  obtain ⟨fl, il⟩ := inv
  by_cases hst : op.isStore = true
  · exact ⟨fl, inv_store il hst wt h⟩
  cases op with
  | alloc o =>
    simp only [Gc.apply] at h
    cases ha : g.alloc o with
    | none => rw [ha] at h; cases h; exact ⟨fl, il⟩
    | some r =>
      rw [ha] at h; cases h
      obtain ⟨fl', _, i', _⟩ := inv_alloc il wt ha
      exact ⟨fl', i'⟩
  | collect st gp =>
    simp only [Gc.wellTyped, Bool.and_eq_true, decide_eq_true_eq] at wt
    obtain ⟨g2, h2, i2, _⟩ := collect_spec il wt.1 wt.2
    exact (Option.some.inj (h2.symm.trans h)) ▸ i2
  | omfalos st =>
    obtain ⟨g2, h2, i2, _⟩ := collect_spec (gp := 0) il wt il.pos
    rw [← runOmfalos_eq] at h2
    exact (Option.some.inj (h2.symm.trans h)) ▸ i2
  | run st gp =>
    simp only [Gc.apply, Gc.run] at h
    split at h
    · simp only [Gc.wellTyped, Bool.and_eq_true, decide_eq_true_eq] at wt
      obtain ⟨g2, h2, i2, _⟩ := collect_spec il wt.1 wt.2
      exact (Option.some.inj (h2.symm.trans h)) ▸ i2
    · cases h; exact ⟨fl, il⟩
  | _ => exact absurd rfl hst

end Never
