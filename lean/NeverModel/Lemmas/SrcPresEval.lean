import NeverModel.Lemmas.SrcPres
namespace Never.Src

structure PresAt (n : Nat) : Prop where
  e : ∀ ctx env e, Pres (evalE n ctx env e)
  args : ∀ ctx env es, Pres (evalArgs n ctx env es)
  seq : ∀ ctx env items, Pres (evalSeq n ctx env items)
  whl : ∀ ctx env c b, Pres (evalWhile n ctx env c b)
  doWhl : ∀ ctx env b c, Pres (evalDoWhile n ctx env b c)
  for_ : ∀ ctx env c s b, Pres (evalFor n ctx env c s b)
  forIn : ∀ ctx env x lc i b, Pres (evalForIn n ctx env x lc i b)
  call : ∀ ctx fid cells as, Pres (callClo n ctx fid cells as)
  hdl : ∀ ctx env cs ex, Pres (handle n ctx env cs ex)
  guards : ∀ ctx env l gs, Pres (evalGuards n ctx env l gs)
  quals : ∀ ctx env qs body ty o, Pres (evalQuals n ctx env qs body ty o)
  gen : ∀ ctx env x lc i qs body ty o, Pres (evalGen n ctx env x lc i qs body ty o)
  forRng : ∀ ctx env x ao cur asc lt b, Pres (evalForRng n ctx env x ao cur asc lt b)
  genRng : ∀ ctx env x ao cur asc lt qs body ty o, Pres (evalGenRng n ctx env x ao cur asc lt qs body ty o)

theorem presAt (n : Nat) : PresAt n :=
  have h := compatAt Pres.compat n
  ⟨h.e, h.args, h.seq, h.whl, h.doWhl, h.for_, h.forIn, h.call, h.hdl, h.guards, h.quals, h.gen, h.forRng, h.genRng⟩

end Never.Src
