/-
The store only grows and printed text is only appended, along every evaluation (whatever its
end: value, exception, stop).  Used for C08: captured cells stay allocated; cells allocated by
distinct activations are distinct.
-/
import NeverModel.Lemmas.SrcMono
namespace Never.Src

/-- `s'` is a later state than `s`: no cell disappeared, output was only appended -/
structure Later (s s' : St) : Prop where
  mem : s.mem.size ≤ s'.mem.size
  out : ∃ o, s'.out = s.out ++ o

theorem Later.refl (s : St) : Later s s := ⟨Nat.le_refl _, [], by simp⟩
theorem Later.trans {a b c : St} (h1 : Later a b) (h2 : Later b c) : Later a c := by
  obtain ⟨o1, ho1⟩ := h1.out
  obtain ⟨o2, ho2⟩ := h2.out
  exact ⟨Nat.le_trans h1.mem h2.mem, o1 ++ o2, by rw [ho2, ho1, List.append_assoc]⟩

def Res.st : Res α → St
  | .ok _ s | .exc _ s | .stop _ s => s

/-- every run of `m` ends in a later state -/
structure Pres (m : M α) : Prop where
  h : ∀ s, Later s (m s).st

theorem Pres.pure (a : α) : Pres (pure a : M α) := ⟨fun s => Later.refl s⟩
theorem Pres.throwE (e : Exc) : Pres (throwE e : M α) :=
  ⟨fun s => ⟨by simp [Never.Src.throwE, Res.st], [], by simp [Never.Src.throwE, Res.st]⟩⟩
theorem Pres.stopM (k : Stop) : Pres (stopM k : M α) := ⟨fun s => Later.refl s⟩
theorem Pres.stuck (m : String) : Pres (stuck m : M α) := ⟨fun s => Later.refl s⟩
theorem Pres.oof : Pres (oof : M α) := ⟨fun s => Later.refl s⟩

theorem Pres.bind {m : M α} {k : α → M β} (h : Pres m) (hk : ∀ a, Pres (k a)) : Pres (m >>= k) := by
  constructor
  intro s
  have h1 := h.h s
  simp only [bind_eq, M.bind]
  cases hm : m s with
  | ok a s1 => rw [hm] at h1; exact Later.trans h1 ((hk a).h s1)
  | exc e s1 => rw [hm] at h1; exact h1
  | stop c s1 => rw [hm] at h1; exact h1

theorem Pres.tryCatch {m : M α} {k : Exc → M α} (h : Pres m) (hk : ∀ e, Pres (k e)) : Pres (tryCatch m k) := by
  constructor
  intro s
  have h1 := h.h s
  simp only [Never.Src.tryCatch]
  cases hm : m s with
  | ok a s1 => rw [hm] at h1; exact h1
  | exc e s1 => rw [hm] at h1; exact Later.trans h1 ((hk e).h s1)
  | stop c s1 => rw [hm] at h1; exact h1

theorem Pres.alloc (v : Val) : Pres (alloc v) :=
  ⟨fun s => ⟨by simp [Never.Src.alloc, Res.st], [], by simp [Never.Src.alloc, Res.st]⟩⟩
theorem Pres.load (l : Loc) : Pres (load l) := by
  constructor
  intro s
  simp only [Never.Src.load]
  split <;> exact Later.refl s
theorem Pres.store (l : Loc) (v : Val) : Pres (store l v) :=
  ⟨fun s => ⟨by simp [Never.Src.store, Res.st], [], by simp [Never.Src.store, Res.st]⟩⟩
theorem Pres.emit (b : Bytes) : Pres (emit b) :=
  ⟨fun s => ⟨by simp [Never.Src.emit, Res.st], b, by simp [Never.Src.emit, Res.st]⟩⟩
theorem Pres.logClo (n : Nat) : Pres (logClo n) :=
  ⟨fun s => ⟨by simp [Never.Src.logClo, Res.st], [], by simp [Never.Src.logClo, Res.st]⟩⟩

theorem Pres.prim {m : M α} (h : Prim m) : Pres m := by
  induction h with
  | pure a => exact Pres.pure a
  | throwE e => exact Pres.throwE e
  | stopM k => exact Pres.stopM k
  | alloc v => exact Pres.alloc v
  | load l => exact Pres.load l
  | store l v => exact Pres.store l v
  | emit b => exact Pres.emit b
  | logClo n => exact Pres.logClo n
  | bind _ _ hm hk => exact Pres.bind hm hk
  | read _ ih => exact ⟨fun s => (ih s).h s⟩

theorem Pres.compat : Compat fun m _ => Pres m := ⟨Pres.bind, Pres.tryCatch, Pres.oof, Pres.prim inferInstance⟩

theorem Pres.allocArgs (as : List Arg) : Pres (allocArgs as) := Pres.prim inferInstance

end Never.Src
