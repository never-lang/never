import NeverModel.Model.Ledger
import NeverModel.Lemmas.InvCollect
set_option linter.unusedSimpArgs false
set_option linter.unusedVariables false
/-!
the allocator ledger: every operation of the collector frees only live blocks, each once,
never hands out a live name again, and the allocator's live set is exactly what the
collector state accounts for (`Gc.owned`); `gc_delete` releases everything.
-/
namespace Never
open Mem

/-! ### blocks of a cell -/

theorem mem_blocksOfCell {b : Block} {a' : Nat} {oo : Option Obj} :
    b ∈ blocksOfCell a' oo ↔ b.1 = a' ∧ ∃ o, oo = some o ∧ b.2 < blocksOf o := by
  obtain ⟨a, k⟩ := b
  cases oo with
  | none => simp [blocksOfCell]
  | some o =>
    simp only [blocksOfCell, List.mem_map, List.mem_range, Prod.mk.injEq, Option.some.injEq]
    constructor
    · rintro ⟨x, hx, h1, h2⟩; subst h2; exact ⟨h1.symm, o, rfl, hx⟩
    · rintro ⟨h1, o', h2, h3⟩; subst h2; exact ⟨k, h3, h1.symm, rfl⟩

theorem mem_blocksAt {b : Block} {m : Mem} {a' : Nat} :
    b ∈ blocksAt m a' ↔ b.1 = a' ∧ ∃ o, objAt m b.1 = some o ∧ b.2 < blocksOf o := by
  unfold blocksAt
  rw [mem_blocksOfCell]
  constructor
  · rintro ⟨h1, h2⟩; rw [h1]; exact ⟨rfl, h2⟩
  · rintro ⟨h1, h2⟩; rw [h1] at h2; exact ⟨h1, h2⟩

theorem nodup_blocksOfCell (a : Nat) (oo : Option Obj) : (blocksOfCell a oo).Nodup := by
  cases oo with
  | none => simp [blocksOfCell]
  | some o =>
    simp only [blocksOfCell]
    apply List.pairwise_map.mpr
    exact List.Pairwise.imp (fun h => by simpa using h) List.nodup_range

theorem length_blocksOfCell (a : Nat) (o : Obj) : (blocksOfCell a (some o)).length = blocksOf o := by
  simp [blocksOfCell]

theorem nodup_blocksAt (m : Mem) (a : Nat) : (blocksAt m a).Nodup := nodup_blocksOfCell _ _

theorem nodup_flatMap_blocksAt (m : Mem) {l : List Nat} (h : l.Nodup) : (l.flatMap (blocksAt m)).Nodup := by
  apply List.pairwise_flatMap.mpr
  refine ⟨fun a _ => nodup_blocksAt m a, ?_⟩
  refine List.Pairwise.imp ?_ h
  intro a1 a2 hne x hx y hy hxy
  subst hxy
  exact hne ((mem_blocksAt.mp hx).1.symm.trans (mem_blocksAt.mp hy).1)

theorem mem_flatMap_blocksAt {m : Mem} {l : List Nat} {b : Block} :
    b ∈ l.flatMap (blocksAt m) ↔ b.1 ∈ l ∧ ∃ o, objAt m b.1 = some o ∧ b.2 < blocksOf o := by
  rw [List.mem_flatMap]
  constructor
  · rintro ⟨a, ha, hb⟩
    obtain ⟨h1, h2⟩ := mem_blocksAt.mp hb
    exact ⟨h1 ▸ ha, h2⟩
  · rintro ⟨h1, h2⟩
    exact ⟨b.1, h1, mem_blocksAt.mpr ⟨rfl, h2⟩⟩

theorem mem_gcBlocks {b : Block} : b ∈ gcBlocks ↔ b.1 = 0 ∧ b.2 < 4 := by
  obtain ⟨a, k⟩ := b
  simp only [gcBlocks, List.mem_cons, Prod.mk.injEq, List.mem_nil_iff, or_false]
  omega

/-! ### the owned set -/

/-- balance invariant: the allocator's live set is duplicate-free and is exactly what the collector state accounts for -/
structure Bal (s : LSt) : Prop where
  nodup : s.live.Nodup
  mem : ∀ b, b ∈ s.live ↔ b ∈ s.g.owned

theorem owned_nodup {g : Gc} {fl : List Nat} (inv : InvL g fl) : g.owned.Nodup := by
  unfold Gc.owned
  apply List.nodup_append.mpr
  refine ⟨by decide, nodup_flatMap_blocksAt _ inv.cur_nodup, ?_⟩
  intro x hx y hy hxy
  subst hxy
  obtain ⟨_, o, ho, _⟩ := mem_flatMap_blocksAt.mp hy
  rw [(mem_gcBlocks.mp hx).1, inv.nil_none] at ho
  cases ho

/-- membership in `owned` in terms of cells -/
theorem mem_owned {g : Gc} {fl : List Nat} (inv : InvL g fl) (b : Block) :
    b ∈ g.owned ↔ b ∈ gcBlocks ∨ ∃ o, objAt g.mem b.1 = some o ∧ b.2 < blocksOf o := by
  unfold Gc.owned
  rw [List.mem_append, mem_flatMap_blocksAt]
  constructor
  · rintro (h | ⟨_, h⟩)
    · exact Or.inl h
    · exact Or.inr h
  · rintro (h | ⟨o, ho, hk⟩)
    · exact Or.inl h
    · exact Or.inr ⟨(inv.cur_alloc _).mpr (by simp [ho]), o, ho, hk⟩

theorem bal_new (n : Nat) (h : 2 ≤ n) : Bal (LSt.new n) := by
  refine ⟨by show gcBlocks.Nodup; decide, ?_⟩
  intro b
  simp [LSt.new, Gc.owned, Gc.cur, Gc.new]

/-! ### the allocator -/

theorem runEvents_append (live : List Block) (xs ys : List Ev) :
    runEvents live (xs ++ ys) = (runEvents live xs).bind (fun l => runEvents l ys) := by
  induction xs generalizing live with
  | nil => simp [runEvents]
  | cons e xs ih =>
    cases e with
    | malloc b =>
      simp only [List.cons_append, runEvents]
      split
      · simp
      · exact ih _
    | free b =>
      simp only [List.cons_append, runEvents]
      split
      · exact ih _
      · simp

theorem runEvents_frees : ∀ (F live : List Block), F.Nodup → (∀ b ∈ F, b ∈ live) → live.Nodup →
    ∃ l', runEvents live (F.map .free) = some l' ∧ l'.Nodup ∧ ∀ b, b ∈ l' ↔ b ∈ live ∧ b ∉ F := by
  intro F
  induction F with
  | nil => intro live _ _ hl; exact ⟨live, by simp [runEvents], hl, by simp⟩
  | cons b F ih =>
    intro live hF hsub hl
    obtain ⟨hbF, hF'⟩ := List.nodup_cons.mp hF
    have hb : b ∈ live := hsub b (by simp)
    obtain ⟨l', h1, h2, h3⟩ := ih (live.erase b) hF'
      (by intro c hc
          rw [hl.mem_erase_iff]
          exact ⟨fun h => hbF (h ▸ hc), hsub c (List.mem_cons_of_mem _ hc)⟩)
      (hl.erase b)
    refine ⟨l', by simp only [List.map_cons, runEvents, hb, if_true]; exact h1, h2, ?_⟩
    intro c
    rw [h3 c, hl.mem_erase_iff, List.mem_cons]
    constructor
    · rintro ⟨⟨h4, h5⟩, h6⟩; exact ⟨h5, fun h => h.elim h4 h6⟩
    · rintro ⟨h4, h5⟩; exact ⟨⟨fun h => h5 (Or.inl h), h4⟩, fun h => h5 (Or.inr h)⟩

theorem runEvents_mallocs : ∀ (bs live : List Block), bs.Nodup → (∀ b ∈ bs, b ∉ live) →
    runEvents live (bs.map .malloc) = some (live ++ bs) := by
  intro bs
  induction bs with
  | nil => intro live _ _; simp [runEvents]
  | cons b bs ih =>
    intro live hbs hdis
    obtain ⟨hb, hbs'⟩ := List.nodup_cons.mp hbs
    have hbl : b ∉ live := hdis b (by simp)
    simp only [List.map_cons, runEvents, hbl, if_false]
    rw [ih (live ++ [b]) hbs' (by
      intro c hc hmem
      rcases List.mem_append.mp hmem with h | h
      · exact hdis c (List.mem_cons_of_mem _ hc) h
      · simp at h; subst h; exact hb hc)]
    simp

/-! ### the instrumented sweep -/

theorem sweepStep_frame (m : Mem) (free : Nat) (bl : List Nat) {x y : Nat} (h : x ≠ y) :
    marked (sweepStep (m, free, bl) x).1 y = marked m y ∧ objAt (sweepStep (m, free, bl) x).1 y = objAt m y := by
  unfold sweepStep
  simp only
  split
  · simp [objAt_setObj, h]
  · split
    · simp [marked_setMark, h]
    · simp

theorem foldl_sweepStepL_fst (l : List Nat) : ∀ (s : Mem × Nat × List Nat) (F : List Block),
    (l.foldl sweepStepL (s, F)).1 = l.foldl sweepStep s := by
  induction l with
  | nil => intro s F; rfl
  | cons x xs ih => intro s F; rw [List.foldl_cons, List.foldl_cons]; exact ih _ _

theorem filter_flatMap_congr {α β : Type} {p q : α → Bool} {f g : α → List β} : ∀ (l : List α),
    (∀ y ∈ l, p y = q y ∧ f y = g y) → (l.filter p).flatMap f = (l.filter q).flatMap g := by
  intro l
  induction l with
  | nil => intro _; rfl
  | cons x xs ih =>
    intro h
    have hx := h x (by simp)
    have := ih (fun y hy => h y (List.mem_cons_of_mem _ hy))
    by_cases hq : q x = true
    · simp [List.filter_cons, hx.1, hq, hx.2, this]
    · simp [List.filter_cons, hx.1, hq, this]

theorem foldl_sweepStepL_snd : ∀ (l : List Nat) (m : Mem) (free : Nat) (bl : List Nat) (F : List Block), l.Nodup →
    (l.foldl sweepStepL ((m, free, bl), F)).2 = F ++ (l.filter (fun x => !marked m x)).flatMap (blocksAt m) := by
  intro l
  induction l with
  | nil => intro m free bl F _; simp
  | cons x xs ih =>
    intro m free bl F hnd
    obtain ⟨hx, hnd'⟩ := List.nodup_cons.mp hnd
    have hstep : sweepStepL ((m, free, bl), F) x =
        (((sweepStep (m, free, bl) x).1, (sweepStep (m, free, bl) x).2.1, (sweepStep (m, free, bl) x).2.2),
          F ++ (if marked m x = false then blocksAt m x else [])) := rfl
    rw [List.foldl_cons, hstep, ih _ _ _ _ hnd']
    have hc : (xs.filter (fun y => !marked (sweepStep (m, free, bl) x).1 y)).flatMap (blocksAt (sweepStep (m, free, bl) x).1)
        = (xs.filter (fun y => !marked m y)).flatMap (blocksAt m) := by
      apply filter_flatMap_congr
      intro y hy
      have hxy : x ≠ y := fun h => hx (h ▸ hy)
      obtain ⟨h1, h2⟩ := sweepStep_frame m free bl hxy
      refine ⟨by simp only [h1], ?_⟩
      unfold blocksAt; rw [h2]
    rw [hc]
    by_cases hm : marked m x = true
    · simp [List.filter_cons, hm]
    · have hm' : marked m x = false := by simpa using hm
      simp [List.filter_cons, hm']

theorem sweepFrees_eq (g : Gc) (h : g.cur.Nodup) :
    g.sweepFrees = (g.cur.filter (fun x => !marked g.mem x)).flatMap (blocksAt g.mem) := by
  unfold Gc.sweepFrees
  rw [foldl_sweepStepL_snd _ _ _ _ _ h]; simp

/-! ### a whole collection -/

/-- a collection frees exactly the blocks of the cells that are not reachable from the roots, each once -/
theorem collectFrees_spec {g : Gc} {fl : List Nat} {st : List Slot} {gp : Nat} (inv : InvL g fl)
    (hs : st.all (slotOk g.mem) = true) (hg : gp < g.mem.size) :
    (g.collectFrees st gp).Nodup ∧
    ∀ b, b ∈ g.collectFrees st gp ↔
      ∃ o, objAt g.mem b.1 = some o ∧ b.2 < blocksOf o ∧ ¬ Live g.mem (allRoots st gp) b.1 := by
  obtain ⟨m', hmk, sp, hlive⟩ := markPhase_live inv hs hg
  have hobj := sp.post.mono.obj
  replace hmk : g.markOnly st gp = some m' := hmk
  have hcur : ({ g with mem := m' } : Gc).cur = g.cur := rfl
  have heq : g.collectFrees st gp = (g.cur.filter (fun x => !marked m' x)).flatMap (blocksAt m') := by
    unfold Gc.collectFrees
    rw [hmk]
    simp only
    rw [sweepFrees_eq _ (by rw [hcur]; exact inv.cur_nodup), hcur]
  rw [heq]
  refine ⟨nodup_flatMap_blocksAt _ (List.Nodup.sublist List.filter_sublist inv.cur_nodup), ?_⟩
  intro b
  rw [mem_flatMap_blocksAt, List.mem_filter, hobj, ← hlive]
  constructor
  · rintro ⟨⟨_, hm⟩, o, ho, hk⟩
    exact ⟨o, ho, hk, by simpa using hm⟩
  · rintro ⟨o, ho, hk, hm⟩
    exact ⟨⟨(inv.cur_alloc _).mpr (by simp [ho]), by simpa using hm⟩, o, ho, hk⟩

theorem bal_collect {g g' : Gc} {live : List Block} {fl : List Nat} {st : List Slot} {gp : Nat}
    (inv : InvL g fl) (bal : Bal ⟨g, live⟩) (hs : st.all (slotOk g.mem) = true) (hg : gp < g.mem.size)
    (h : g.collect st gp = some g') :
    ∃ l, runEvents live ((g.collectFrees st gp).map .free) = some l ∧ Bal ⟨g', l⟩ := by
  obtain ⟨g2, h2, ⟨fl', il'⟩, e2, k2, _, _⟩ := collect_spec inv hs hg
  rw [h2] at h; cases h
  obtain ⟨hnd, hmem⟩ := collectFrees_spec inv hs hg
  obtain ⟨l, hl, hlnd, hlmem⟩ := runEvents_frees (g.collectFrees st gp) live hnd
    (by intro b hb
        obtain ⟨o, ho, hk, _⟩ := (hmem b).mp hb
        exact (bal.mem b).mpr ((mem_owned inv b).mpr (Or.inr ⟨o, ho, hk⟩)))
    bal.nodup
  refine ⟨l, hl, hlnd, ?_⟩
  intro b
  show b ∈ l ↔ b ∈ g'.owned
  rw [hlmem b, hmem b, mem_owned il' b]
  have hbal : b ∈ live ↔ b ∈ g.owned := bal.mem b
  rw [hbal, mem_owned inv b]
  by_cases hL : Live g.mem (allRoots st gp) b.1
  · rw [k2 _ hL]
    constructor
    · exact fun h => h.1
    · exact fun h => ⟨h, fun ⟨_, _, _, hn⟩ => hn hL⟩
  · have hnone : objAt g'.mem b.1 = none := Option.not_isSome_iff_eq_none.mp (fun hs => hL ((e2 b.1).mp hs))
    rw [hnone]
    constructor
    · rintro ⟨h1 | ⟨o, ho, hk⟩, h2⟩
      · exact Or.inl h1
      · exact absurd ⟨o, ho, hk, hL⟩ h2
    · rintro (h1 | ⟨o, ho, _⟩)
      · refine ⟨Or.inl h1, ?_⟩
        rintro ⟨o, ho, _⟩
        rw [(mem_gcBlocks.mp h1).1, inv.nil_none] at ho; cases ho
      · cases ho

/-! ### one operation -/

/-- cell `a` gets the object `o'`, which owns the blocks `(a, n) … (a, blocksOf o' - 1)` more than what the cell held (`n` blocks:
none for a free cell): the allocator accepts the mallocs of exactly those blocks and the balance is kept -/
theorem bal_grow {g g' : Gc} {live bs : List Block} {fl fl' : List Nat} {a n : Nat} {o' : Obj}
    (inv : InvL g fl) (bal : Bal ⟨g, live⟩) (inv' : InvL g' fl') (ha : a ≠ 0) (hlt : a < g.mem.size)
    (hm : g'.mem = g.mem.setObj a (some o')) (hn : n = match objAt g.mem a with | some o => blocksOf o | none => 0)
    (hle : n ≤ blocksOf o') (hnd : bs.Nodup) (hbs : ∀ b, b ∈ bs ↔ b.1 = a ∧ n ≤ b.2 ∧ b.2 < blocksOf o') :
    ∃ l, runEvents live (bs.map .malloc) = some l ∧ Bal ⟨g', l⟩ := by
  have hold : ∀ k, (∃ o, objAt g.mem a = some o ∧ k < blocksOf o) ↔ k < n := by
    intro k; subst hn; cases objAt g.mem a <;> simp
  have hg : ∀ b : Block, b.1 = a → b ∉ gcBlocks := fun b hb h => ha (hb ▸ (mem_gcBlocks.mp h).1)
  have hdis : ∀ b ∈ bs, b ∉ live := by
    intro b hb hbl
    obtain ⟨h1, h2, _⟩ := (hbs b).mp hb
    rcases (mem_owned inv b).mp ((bal.mem b).mp hbl) with h | h
    · exact hg b h1 h
    · rw [h1] at h
      have := (hold b.2).mp h
      omega
  refine ⟨live ++ bs, runEvents_mallocs _ _ hnd hdis,
    List.nodup_append.mpr ⟨bal.nodup, hnd, fun x hx y hy hxy => hdis y hy (hxy ▸ hx)⟩, fun b => ?_⟩
  show b ∈ live ++ bs ↔ b ∈ g'.owned
  rw [List.mem_append, (bal.mem b : b ∈ live ↔ b ∈ g.owned), mem_owned inv b, mem_owned inv' b, hm, objAt_setObj, hbs b]
  by_cases hab : a = b.1
  · rw [if_pos ⟨hab, hlt⟩, ← hab, hold b.2]
    have := hg b hab.symm
    simp only [this, false_or, Option.some.injEq, exists_eq_left', hab, true_and]
    omega
  · rw [if_neg (fun h => hab h.1)]
    simp [Ne.symm hab]

/-- one well-typed operation: the allocator never sees an invalid/double free nor a clashing malloc, and balance is kept -/
theorem bal_step {s : LSt} {op : Op} {g' : Gc} (inv : Inv s.g) (bal : Bal s)
    (wt : s.g.wellTyped op = true) (h : s.g.apply op = some g') :
    ∃ l, runEvents s.live (s.g.events op) = some l ∧ Bal ⟨g', l⟩ := by
  obtain ⟨g, live⟩ := s
  obtain ⟨fl, il⟩ := inv
  by_cases hst : op.isStore = true
  · have inv' := inv_store il hst wt h
    obtain ⟨a, o, o', st, ho, rfl⟩ := apply_stored hst h
    have ha0 : a ≠ 0 := fun h0 => isSome_ne_none (by rw [ho]; rfl) (h0 ▸ il.nil_none)
    have grow := fun bs n => bal_grow (bs := bs) (n := n) il bal inv' ha0 (objAt_some_lt ho) rfl
    have same : blocksOf o' = blocksOf o → ∃ l, runEvents live [] = some l ∧ Bal ⟨_, l⟩ := fun hb =>
      grow [] (blocksOf o) (by rw [ho]) (by omega) List.nodup_nil (fun b => by simp; omega)
    cases st with
    | @append _ v n mult es =>
      cases es with
      | nil =>
        have hev : g.events (.append a v) = [(a, 3)].map .malloc := by simp [Gc.events, ho]
        rw [hev]
        exact grow [(a, 3)] 3 (by rw [ho]; rfl) (by simp [blocksOf]) (by simp) (fun b => by
          obtain ⟨a', k⟩ := b
          simp [blocksOf]
          omega)
      | cons e es =>
        have hev : g.events (.append a v) = [] := by simp [Gc.events, ho]
        rw [hev]
        exact same (by simp [blocksOf])
    | _ => exact same (by simp [blocksOf])
  cases op with
  | alloc o =>
    simp only [Gc.apply] at h
    cases ha : g.alloc o with
    | none =>
      rw [ha] at h; cases h
      exact ⟨live, by simp [Gc.events, ha, runEvents], bal⟩
    | some r =>
      obtain ⟨g1, loc⟩ := r
      rw [ha] at h; cases h
      obtain ⟨fl', hfl, i', hnone, h0, hmem, _⟩ := inv_alloc il wt ha
      have hev : g.events (.alloc o) = (blocksOfCell loc (some o)).map .malloc := by simp [Gc.events, ha]
      rw [hev]
      exact bal_grow (n := 0) il bal i' h0 (il.chain.lt loc (by simp [hfl])).1 hmem (by rw [hnone]) (Nat.zero_le _)
        (nodup_blocksOfCell _ _) (fun b => by simp [mem_blocksOfCell])
  | collect st gp =>
    simp only [Gc.wellTyped, Bool.and_eq_true, decide_eq_true_eq] at wt
    exact bal_collect il bal wt.1 wt.2 h
  | omfalos st =>
    simp only [Gc.apply, runOmfalos_eq] at h
    exact bal_collect il bal wt il.pos h
  | run st gp =>
    simp only [Gc.apply] at h
    unfold Gc.run at h
    by_cases hw : g.wantsCollect = true
    · simp only [hw, if_true] at h
      simp only [Gc.wellTyped, Bool.and_eq_true, decide_eq_true_eq] at wt
      have := bal_collect il bal wt.1 wt.2 h
      simpa [Gc.events, hw] using this
    · simp only [hw, if_false] at h
      cases h
      exact ⟨live, by simp [Gc.events, hw, runEvents], bal⟩
  | _ => exact absurd rfl hst

/-! ### histories -/

theorem exec_bal_aux (ops : List Op) : ∀ (s : LSt), Inv s.g → Bal s →
    ∃ s', s.exec ops = some s' ∧ s'.g = s.g.exec ops ∧ Inv s'.g ∧ Bal s' := by
  induction ops with
  | nil => intro s i b; exact ⟨s, rfl, rfl, i, b⟩
  | cons op ops ih =>
    intro s i b
    simp only [LSt.exec, Gc.exec]
    by_cases wt : s.g.wellTyped op = true
    · rw [if_pos wt, if_pos wt]
      cases ha : s.g.apply op with
      | none => exact ih s i b
      | some g' =>
        obtain ⟨l, hl, bl⟩ := bal_step i b wt ha
        simp only [hl]
        exact ih ⟨g', l⟩ (inv_apply i wt ha) bl
    · rw [if_neg wt, if_neg wt]; exact ih s i b

/-- over any history -/
theorem exec_bal (n : Nat) (h : 2 ≤ n) (ops : List Op) :
    ∃ s, (LSt.new n).exec ops = some s ∧ s.g = (Gc.new n).exec ops ∧ Inv s.g ∧ Bal s :=
  exec_bal_aux ops (LSt.new n) (inv_new n (by omega)) (bal_new n h)

/-! ### counting -/

theorem length_blocksAt (m : Mem) (a : Nat) :
    (blocksAt m a).length = match objAt m a with | some o => blocksOf o | none => 0 := by
  unfold blocksAt; cases objAt m a <;> simp [blocksOfCell]

theorem owned_length (g : Gc) : g.owned.length = g.ownedCount := by
  unfold Gc.owned Gc.ownedCount
  rw [List.length_append, List.length_flatMap]
  simp only [length_blocksAt]; rfl

theorem bal_count {s : LSt} (inv : Inv s.g) (bal : Bal s) :
    s.live.Perm s.g.owned ∧ s.live.length = s.g.ownedCount := by
  obtain ⟨fl, il⟩ := inv
  have hp : s.live.Perm s.g.owned := (List.perm_ext_iff_of_nodup bal.nodup (owned_nodup il)).mpr bal.mem
  exact ⟨hp, by rw [hp.length_eq, owned_length]⟩

/-! ### gc_delete -/

theorem mem_gcBlocks' {b : Block} : b ∈ [((0 : Nat), (1 : Nat)), (0, 2), (0, 3), (0, 0)] ↔ b ∈ gcBlocks := by
  rw [mem_gcBlocks]
  obtain ⟨a, k⟩ := b
  simp only [List.mem_cons, Prod.mk.injEq, List.mem_nil_iff, or_false]
  omega

/-- gc_delete releases everything, nothing twice -/
theorem delete_all {s : LSt} (inv : Inv s.g) (bal : Bal s) : s.delete = some [] := by
  obtain ⟨fl, il⟩ := inv
  -- what `gc_delete` frees is, up to order, what the state owns
  have hF : ∀ b, b ∈ (List.range s.g.mem.size).flatMap (blocksAt s.g.mem) ++ [(0, 1), (0, 2), (0, 3), (0, 0)] ↔ b ∈ s.g.owned := by
    intro b
    rw [List.mem_append, mem_flatMap_blocksAt, List.mem_range, mem_owned il, mem_gcBlocks', Or.comm]
    exact or_congr_right ⟨fun h => h.2, fun ⟨o, ho, hk⟩ => ⟨objAt_some_lt ho, o, ho, hk⟩⟩
  have hnd : ((List.range s.g.mem.size).flatMap (blocksAt s.g.mem) ++ [(0, 1), (0, 2), (0, 3), (0, 0)]).Nodup := by
    refine List.nodup_append.mpr ⟨nodup_flatMap_blocksAt _ List.nodup_range, by decide, fun x hx y hy hxy => ?_⟩
    obtain ⟨_, o, ho, _⟩ := mem_flatMap_blocksAt.mp hx
    rw [hxy, (mem_gcBlocks.mp (mem_gcBlocks'.mp hy)).1, il.nil_none] at ho
    cases ho
  obtain ⟨l, h1, _, m1⟩ := runEvents_frees _ s.live hnd (fun b hb => (bal.mem b).mpr ((hF b).mp hb)) bal.nodup
  have hl : l = [] := List.eq_nil_iff_forall_not_mem.mpr fun b hb =>
    ((m1 b).mp hb).2 ((hF b).mpr ((bal.mem b).mp ((m1 b).mp hb).1))
  rw [← hl, ← h1, List.map_append]
  rfl

end Never
