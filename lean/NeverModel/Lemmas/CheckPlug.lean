import NeverModel.Lemmas.CheckCtx
set_option linter.unusedVariables false
/-! # `check` is compositional: errors propagate through every frame -/
namespace Never.Tc

theorem tcBounds_from (Γ : Env) (x t : Expr) (post : ExprList) (d : Diag) (h : tc Γ x = .error d) :
    tcBounds Γ (.cons x (.cons t post)) = .error d := by
  rw [tcBounds]
  exact bind_error h

theorem tcBounds_to (Γ : Env) (f x : Expr) (post : ExprList) (d : Diag)
    (h : (tc Γ f >>= fun _ => tc Γ x) = .error d) : tcBounds Γ (.cons f (.cons x post)) = .error d := by
  rw [tcBounds]
  exact bind_error_mono h fun _ _ h => bind_error h

theorem tcQuals_head (Γ : Env) (k : QualK) (e : Expr) (post : QualList) (d : Diag)
    (h : tc Γ e = .error d) : tcQuals Γ (.cons (k.mk e) post) = .error d := by
  cases k <;> exact bind_error h

theorem tcSeq_funcs (Γ : Env) (F : FuncList) (post : SeqList) (d : Diag)
    (h : (declFuncs Γ F >>= fun p => tcBodies p.1 F p.2) = .error d) :
    tcSeq Γ (.cons (.funcs F) post) = .error d := by
  rw [tcSeq]
  exact bind_error_mono h fun ⟨_, _⟩ _ h => bind_error h

/-- a run of functions with a hole in one of them: the declaration pass of the whole run, the
bodies of the earlier ones, then the function with the hole -/
theorem run_hole (Γ : Env) (fpre : FuncList) (h : FuncHole) (fpost : FuncList) (e : Expr) (d : Diag)
    (hh : ((do
      let (Γa, spre) ← declFuncs Γ fpre
      let (Γ2, srest) ← declFuncs Γa (.cons (h.plug default) fpost)
      match srest with
      | s :: _ => do
        tcBodies Γ2 fpre spre
        h.pre (funcEnv Γ2 h.name s) s
        pure (funcEnv Γ2 h.name s)
      | [] => .ok Γ2) >>= fun Γ' => tc Γ' e) = .error d) :
    (declFuncs Γ (fpre.app (.cons (h.plug e) fpost)) >>= fun p =>
      tcBodies p.1 (fpre.app (.cons (h.plug e) fpost)) p.2) = .error d := by
  simp only [declFuncs_app, declFuncs_plug h e default, bind_assoc, pure_bind] at hh ⊢
  refine bind_error_mono hh fun ⟨Γa, spre⟩ h2 hh => ?_
  refine bind_error_mono hh fun ⟨Γ2, srest⟩ h3 hh => ?_
  cases srest with
  | nil => exact absurd (declFuncs_length _ _ _ _ h3) (by simp [FuncList.length])
  | cons s spost =>
    simp only [bind_assoc, pure_bind] at hh
    rw [tcBodies_app Γ2 _ _ fpre spre (declFuncs_length _ _ _ _ h2)]
    refine bind_error_mono hh fun _ _ hh => bind_error ?_
    rw [FuncHole.plug_name]
    exact FuncHole.plug_fails _ s h e d hh

theorem Frame.plug_fails (F : Frame) (Γ : Env) (e : Expr) (d : Diag)
    (h : (F.env Γ >>= fun Γ' => tc Γ' e) = .error d) : tc Γ (F.plug e) = .error d := by
  cases F with
  | sup =>
    simp only [Frame.plug, tc]
    exact h
  | enumVal | un | binL | condC | assL | whileC | forInA | callF | attr | matchS | derefA
  | projE | sliceA | pipeL | ifLetE =>
    simp only [Frame.plug, tc]
    exact bind_error h
  | binR | condT | assR | whileB | pipeF =>
    simp only [Frame.env, Frame.plug, tc, bind_assoc, pure_bind] at h ⊢
    exact bind_error_mono h fun _ _ h => bind_error h
  | condE =>
    simp only [Frame.env, Frame.plug, tc, bind_assoc, pure_bind] at h ⊢
    exact bind_error_mono h fun _ _ h => bind_error_mono h fun _ _ h => bind_error h
  | forInB ln x a =>
    simp only [Frame.env, Frame.plug, tc, bind_assoc] at h ⊢
    refine bind_error_mono h fun ca _ h => ?_
    split <;> simp only [*, pure_bind, bind_err] at h
    · exact bind_error h
    · exact h
  | callA ln f pre post | derefI ln f pre post =>
    simp only [Frame.env, Frame.plug, tc, bind_assoc, pure_bind] at h ⊢
    exact bind_error_mono h fun _ _ h => bind_error (tcArgs_app Γ e post d pre h)
  | pipeA ln l f pre post =>
    simp only [Frame.env, Frame.plug, tc, bind_assoc, pure_bind] at h ⊢
    exact bind_error_mono h fun _ _ h => bind_error_mono h fun _ _ h =>
      bind_error (tcArgs_app Γ e post d pre h)
  | tupleE ln pre post ms =>
    simp only [Frame.env, Frame.plug, tc, bind_assoc, pure_bind] at h ⊢
    exact bind_error (tcArgs_app Γ e post d pre h)
  | arrayE ln pre post ec ety =>
    simp only [Frame.env, Frame.plug, tc, bind_assoc, pure_bind] at h ⊢
    exact bind_error (tcRows_app Γ e post d pre h)
  | subE pre post =>
    simp only [Frame.env, Frame.plug, tc, bind_assoc, pure_bind] at h ⊢
    exact bind_error (tcRows_app Γ e post d pre h)
  | rangeF ln ps t post =>
    simp only [Frame.env, Frame.plug, tc, bind_assoc, pure_bind] at h ⊢
    exact bind_error (tcBounds_flat Γ _ d ps
      (bind_error_mono h fun _ _ h => tcBounds_from Γ e t post d h))
  | rangeT ln ps f post =>
    simp only [Frame.env, Frame.plug, tc, bind_assoc, pure_bind] at h ⊢
    exact bind_error (tcBounds_flat Γ _ d ps
      (bind_error_mono h fun _ _ h => tcBounds_to Γ f e post d h))
  | sliceF ln a ps t post =>
    simp only [Frame.env, Frame.plug, tc, bind_assoc, pure_bind] at h ⊢
    exact bind_error_mono h fun _ _ h => bind_error (tcBounds_flat Γ _ d ps
      (bind_error_mono h fun _ _ h => tcBounds_from Γ e t post d h))
  | sliceT ln a ps f post =>
    simp only [Frame.env, Frame.plug, tc, bind_assoc, pure_bind] at h ⊢
    exact bind_error_mono h fun _ _ h => bind_error (tcBounds_flat Γ _ d ps
      (bind_error_mono h fun _ _ h => tcBounds_to Γ f e post d h))
  | lcE ln qs rc rty =>
    simp only [Frame.env, Frame.plug, tc] at h ⊢
    exact bind_error_mono h fun _ _ h => bind_error h
  | lcQ ln e' pre k post rc rty =>
    simp only [Frame.env, Frame.plug, tc, tcQuals_app, bind_assoc] at h ⊢
    exact bind_error_mono h fun Γ' _ h => bind_error (tcQuals_head Γ' k e post d h)
  | seqBind ln pre bln v x post =>
    simp only [Frame.env, Frame.plug, tc] at h ⊢
    refine bind_error (tcSeq_app pre _ _ d (bind_error_mono h fun Γ' _ h => ?_))
    rw [tcSeq]
    exact bind_error h
  | seqExpr ln pre post =>
    simp only [Frame.env, Frame.plug, tc] at h ⊢
    refine bind_error (tcSeq_app pre _ _ d (bind_error_mono h fun Γ' _ h => ?_))
    rw [tcSeq]
    exact bind_error h
  | seqFunc ln pre fpre fh fpost post =>
    rw [Frame.env, bind_assoc] at h
    simp only [Frame.plug, tc]
    exact bind_error (tcSeq_app pre _ _ d (bind_error_mono h fun Γ1 _ h =>
      tcSeq_funcs Γ1 _ post d (run_hole Γ1 fpre fh fpost e d h)))
  | funcLit fh =>
    simp only [Frame.env, Frame.plug, tc, bind_assoc, pure_bind, FuncHole.plug_name, FuncHole.plug_params,
      FuncHole.plug_rc, FuncHole.plug_rty] at h ⊢
    exact bind_error_mono h fun s _ h => bind_error (FuncHole.plug_fails _ s fh e d h)
  | matchArm ln s pre k post =>
    simp only [Frame.env, Frame.plug, tc, bind_assoc] at h ⊢
    refine bind_error_mono h fun cs _ h => ?_
    split at h
    · rename_i en hct
      simp only [bind_assoc, pure_bind] at h
      have hg := tcGuards_app Γ (.cons (k.mk e) post) d pre (bind_error_mono h fun _ _ h => by
        rw [tcGuards_cons, guardHead_mk, bind_assoc]
        exact bind_error_mono h fun _ _ h => bind_error h)
      simp only [hct]
      cases pre <;> exact bind_error hg
    · split
      · rename_i hne _ en hct
        exact absurd hct (hne en)
      · exact h
  | ifLetT ln gln en it e0 f =>
    simp only [Frame.env, Frame.plug, tc, bind_assoc] at h ⊢
    refine bind_error_mono h fun ce _ h => ?_
    split at h
    · rename_i en' hct
      simp only [bind_assoc, pure_bind] at h
      simp only [hct]
      exact bind_error_mono h fun _ _ h => bind_error h
    · split
      · rename_i hne _ en hct
        exact absurd hct (hne en)
      · exact h
  | ifLetF ln gln en it e0 t =>
    simp only [Frame.env, Frame.plug, tc, bind_assoc] at h ⊢
    refine bind_error_mono h fun ce _ h => ?_
    split at h
    · rename_i en' hct
      simp only [bind_assoc, pure_bind] at h
      simp only [hct]
      exact bind_error_mono h fun _ _ h => bind_error_mono h fun _ _ h => bind_error h
    · split
      · rename_i hne _ en hct
        exact absurd hct (hne en)
      · exact h

/-! ## stacks of frames and whole programs -/

def plugFrames : List Frame → Expr → Expr
  | [], e => e
  | F :: r, e => F.plug (plugFrames r e)

def framesEnv : List Frame → Env → Except Diag Env
  | [], Γ => .ok Γ
  | F :: r, Γ => F.env Γ >>= framesEnv r

theorem frames_plug_fails : (Fs : List Frame) → (Γ : Env) → (e : Expr) → (d : Diag) →
    (framesEnv Fs Γ >>= fun Γ' => tc Γ' e) = .error d → tc Γ (plugFrames Fs e) = .error d
  | [], _, _, _, h => h
  | F :: r, Γ, e, d, h => by
    rw [framesEnv, bind_assoc] at h
    exact F.plug_fails Γ _ d (bind_error_mono h fun Γ1 _ h => frames_plug_fails r Γ1 e d h)

/-- a function placed among the functions of a run: what happens before its catch clauses are
reached, namely the declaration pass of the whole run and the bodies of the earlier ones.
Returns the function's own table and its resolved signature. -/
def runEnv (Γ : Env) (fpre : FuncList) (f : Func) (fpost : FuncList) : Except Diag (Env × Sig) := do
  let (Γa, spre) ← declFuncs Γ fpre
  let (Γ2, srest) ← declFuncs Γa (.cons f fpost)
  match srest with
  | s :: _ => do
    tcBodies Γ2 fpre spre
    pure (funcEnv Γ2 f.name s, s)
  | [] => .error ⟨0, .seqLast⟩

/-- `declFuncs` only reads the signature -/
theorem declFuncs_sig (f g : Func) (fpost : FuncList) (Γ : Env)
    (h1 : f.ln = g.ln) (h2 : f.name = g.name) (h3 : f.params = g.params) (h4 : f.rc = g.rc)
    (h5 : f.rty = g.rty) : declFuncs Γ (.cons f fpost) = declFuncs Γ (.cons g fpost) := by
  simp [declFuncs, h1, h2, h3, h4, h5]

/-- the two passes over a run of functions, with the fault inside function `f` or before it -/
theorem run_fails (Γ : Env) (fpre : FuncList) (f : Func) (fpost : FuncList) (d : Diag)
    (h : (runEnv Γ fpre f fpost >>= fun p => tcRest p.1 p.2 f) = .error d) :
    (declFuncs Γ (fpre.app (.cons f fpost)) >>= fun p => tcBodies p.1 (fpre.app (.cons f fpost)) p.2)
      = .error d := by
  simp only [runEnv, declFuncs_app, bind_assoc, pure_bind] at h ⊢
  refine bind_error_mono h fun ⟨Γa, spre⟩ h2 h => ?_
  refine bind_error_mono h fun ⟨Γ2, srest⟩ h3 h => ?_
  cases srest with
  | nil => exact absurd (declFuncs_length _ _ _ _ h3) (by simp [FuncList.length])
  | cons s spost =>
    simp only [bind_assoc, pure_bind] at h
    rw [tcBodies_app Γ2 _ _ fpre spre (declFuncs_length _ _ _ _ h2)]
    exact bind_error_mono h fun _ _ h => bind_error h

end Never.Tc
