import NeverModel.Lemmas.VmRel
import NeverModel.Lemmas.HeapBasic
/-! Raw heap stores.  `setObj a o` is harmless only if cell `a` may be stored to: it holds an object (the handler has just read
it) or was just allocated.  `Kept t R f`: started on a machine where the cells listed in `t` may be stored to, `f` keeps `R`, and
no cell that may be stored to stops being so.  The rules extend `t` behind a typed read (`guard_bind`) and behind an allocation
(`alloc_bind`); everything else is `Rel` (`of_rel`). -/
namespace Never.Vm
open Never Never.Num

variable {R S : Vm → Vm → Prop} {α β : Type}

def Both (R S : Vm → Vm → Prop) : Vm → Vm → Prop := fun a b => R a b ∧ S a b

instance [Frame R] [Frame S] : Frame (Both R S) where
  refl vm := ⟨Frame.refl vm, Frame.refl vm⟩
  trans h1 h2 := ⟨Frame.trans h1.1 h2.1, Frame.trans h1.2 h2.2⟩
  out vm o := ⟨Frame.out vm o, Frame.out vm o⟩
  line vm l := ⟨Frame.line vm l, Frame.line vm l⟩
  stop vm r e h := ⟨Frame.stop vm r e h, Frame.stop vm r e h⟩
  alloc vm o g l h := ⟨Frame.alloc vm o g l h, Frame.alloc vm o g l h⟩
  store vm a o h := ⟨Frame.store vm a o h, Frame.store vm a o h⟩

instance [WrFrame R] [WrFrame S] : WrFrame (Both R S) := ⟨fun vm i s => ⟨WrFrame.wr vm i s, WrFrame.wr vm i s⟩⟩
instance [SpFrame R] [SpFrame S] : SpFrame (Both R S) := ⟨fun vm v => ⟨SpFrame.sp vm v, SpFrame.sp vm v⟩⟩
instance [IpFrame R] [IpFrame S] : IpFrame (Both R S) := ⟨fun vm v => ⟨IpFrame.ip vm v, IpFrame.ip vm v⟩⟩
instance [HeapFrame R] [HeapFrame S] : HeapFrame (Both R S) := ⟨fun vm g => ⟨HeapFrame.heap vm g, HeapFrame.heap vm g⟩⟩

/-- no cell that held an object has lost it -/
def AliveMono (vm vm' : Vm) : Prop := ∀ x, Alive vm x → Alive vm' x

/-- no cell that could be stored to has stopped being so -/
def Stable (vm vm' : Vm) : Prop := AliveMono vm vm' ∧ vm'.gc.mem.size = vm.gc.mem.size

theorem Gc.alloc_mem {g g' : Gc} {o : Obj} {l : Nat} (h : g.alloc o = some (g', l)) : l = g.free ∧ g'.mem = g.mem.setObj g.free (some o) := by
  unfold Gc.alloc at h
  simp only at h
  split at h
  · cases h
  · split at h <;> (cases h; exact ⟨rfl, rfl⟩)

theorem alive_setObj (vm : Vm) (a x : Nat) (o : Obj) (h : Alive vm x) :
    Alive { vm with gc := { vm.gc with mem := vm.gc.mem.setObj a (some o) } } x := by
  unfold Alive at h ⊢
  show ((vm.gc.mem.setObj a (some o)).objAt x).isSome = true
  rw [Mem.objAt_setObj]
  split
  · rfl
  · exact h

theorem stable_setObj (vm : Vm) (a : Nat) (o : Obj) : Stable vm { vm with gc := { vm.gc with mem := vm.gc.mem.setObj a (some o) } } :=
  ⟨fun x hx => alive_setObj vm a x o hx, Mem.size_setObj _ _ _⟩

instance : Frame Stable where
  refl vm := ⟨fun _ h => h, rfl⟩
  trans h1 h2 := ⟨fun x hx => h2.1 x (h1.1 x hx), h2.2.trans h1.2⟩
  out vm o := ⟨fun _ h => h, rfl⟩
  line vm l := ⟨fun _ h => h, rfl⟩
  stop vm r e _ := ⟨fun _ h => h, rfl⟩
  alloc vm o g l h := by
    obtain ⟨_, hm⟩ := Gc.alloc_mem h
    refine ⟨fun x hx => ?_, by show g.mem.size = _; rw [hm, Mem.size_setObj]⟩
    unfold Alive at hx ⊢
    show (g.mem.objAt x).isSome = true
    rw [hm, Mem.objAt_setObj]
    split
    · rfl
    · exact hx
  store vm a o _ := stable_setObj vm a o

instance : WrFrame Stable := ⟨fun _ _ _ => ⟨fun _ h => h, rfl⟩⟩
instance : SpFrame Stable := ⟨fun _ _ => ⟨fun _ h => h, rfl⟩⟩
instance : IpFrame Stable := ⟨fun _ _ => ⟨fun _ h => h, rfl⟩⟩

/-- every completed run of `f` closes no cell to stores and, if the cells of `t` were open to stores at the start, keeps `R` -/
def Kept (t : List Nat) (R : Vm → Vm → Prop) (f : M α) : Prop :=
  ∀ vm b vm', f.run vm = .ok (b, vm') → Stable vm vm' ∧ ((∀ a ∈ t, Storable vm a) → R vm vm')

theorem Storable.stable {vm vm' : Vm} {a : Nat} (h : Storable vm a) (hs : Stable vm vm') : Storable vm' a :=
  h.elim (fun ha => .inl (hs.1 a ha)) (fun hz => .inr (by rw [hs.2]; exact hz))

theorem Kept.of_rel {t : List Nat} {f : M α} (h : Rel (Both R Stable) f) : Kept t R f :=
  fun vm b vm' hr => ⟨(h vm b vm' hr).2, fun _ => (h vm b vm' hr).1⟩

theorem Kept.rel {f : M α} (h : Kept [] R f) : Rel R f := fun vm b vm' hr => (h vm b vm' hr).2 (fun _ ha => nomatch ha)

theorem Kept.bind [Frame R] {t : List Nat} {f : M α} {g : α → M β} (hf : Kept t R f) (hg : ∀ a, Kept t R (g a)) : Kept t R (f >>= g) := by
  intro vm b vm'' h
  obtain ⟨a, vm', h1, h2⟩ := (run_bind_ok f g vm vm'' b).mp h
  obtain ⟨s1, r1⟩ := hf vm a vm' h1
  obtain ⟨s2, r2⟩ := hg a vm' b vm'' h2
  exact ⟨Frame.trans s1 s2, fun ht => Frame.trans (r1 ht) (r2 fun c hc => (ht c hc).stable s1)⟩

/-- which cell a typed read has found an object in -/
class Guards (f : M α) (a : outParam Nat) : Prop where
  guard : Guard a f

instance (a : Nat) : Guards (objOf a) a := ⟨guard_objOf a⟩
instance (a : Nat) : Guards (getInt a) a := ⟨guard_getInt a⟩
instance (a : Nat) : Guards (getLong a) a := ⟨guard_getLong a⟩
instance (a : Nat) : Guards (getFloat a) a := ⟨guard_getFloat a⟩
instance (a : Nat) : Guards (getDouble a) a := ⟨guard_getDouble a⟩
instance (a : Nat) : Guards (getChar a) a := ⟨guard_getChar a⟩
instance (a : Nat) : Guards (getStr a) a := ⟨guard_getStr a⟩
instance (a : Nat) : Guards (getStrRef a) a := ⟨guard_getStrRef a⟩
instance (a : Nat) : Guards (getVecRef a) a := ⟨guard_getVecRef a⟩
instance (a : Nat) : Guards (getArrRef a) a := ⟨guard_getArrRef a⟩
instance (a : Nat) : Guards (getVecObj a) a := ⟨guard_getVecObj a⟩
instance (a : Nat) : Guards (getArrObj a) a := ⟨guard_getArrObj a⟩
instance (a : Nat) : Guards (getFunc a) a := ⟨guard_getFunc a⟩
instance (a : Nat) : Guards (getCPtr a) a := ⟨guard_getCPtr a⟩

/-- behind a successful typed read of cell `a` the rest may store into `a` -/
theorem Kept.guard_bind {t : List Nat} {a : Nat} {f : M α} [Guards f a] {g : α → M β} (hg : ∀ x, Kept (a :: t) R (g x)) :
    Kept t R (f >>= g) := by
  intro vm b vm'' h
  obtain ⟨x, vm', h1, h2⟩ := (run_bind_ok f g vm vm'' b).mp h
  obtain ⟨rfl, ha⟩ := Guards.guard (f := f) _ _ _ h1
  obtain ⟨s, r⟩ := hg x _ _ _ h2
  exact ⟨s, fun ht => r fun c hc => by cases hc with | head => exact .inl ha | tail _ hc => exact ht c hc⟩

/-- the cell an allocation returns may be stored to -/
theorem alloc_storable {o : Obj} {vm vm' : Vm} {l : Nat} (h : (alloc o).run vm = .ok (l, vm')) : Storable vm' l := by
  unfold alloc at h
  obtain ⟨v, v', h3, h4⟩ := (run_bind_ok _ _ _ _ _).mp h
  cases h3
  split at h4
  · cases h4
  · rename_i g' l' hg'
    cases h4
    obtain ⟨rfl, hm⟩ := Gc.alloc_mem hg'
    by_cases hz : vm.gc.free < vm.gc.mem.size
    · refine .inl ?_
      unfold Alive
      show (g'.mem.objAt vm.gc.free).isSome = true
      rw [hm, Mem.objAt_setObj, if_pos ⟨rfl, hz⟩]; rfl
    · refine .inr ?_
      show g'.mem.size ≤ _
      rw [hm, Mem.size_setObj]; omega

/-- behind an allocation the rest may store into the new cell -/
theorem Kept.alloc_bind [Frame R] {t : List Nat} {o : Obj} {g : Nat → M β} (hg : ∀ l, Kept (l :: t) R (g l)) : Kept t R (alloc o >>= g) := by
  intro vm b vm'' h
  obtain ⟨l, vm', h1, h2⟩ := (run_bind_ok _ g vm vm'' b).mp h
  obtain ⟨r1, s1⟩ := (rel_alloc o : Rel (Both R Stable) _) vm l vm' h1
  obtain ⟨s2, r2⟩ := hg l vm' b vm'' h2
  refine ⟨Frame.trans s1 s2, fun ht => Frame.trans r1 (r2 fun c hc => ?_)⟩
  cases hc with
  | head => exact alloc_storable h1
  | tail _ hc => exact (ht c hc).stable s1

theorem Kept.setObj [Frame R] {t : List Nat} {a : Nat} (o : Obj) (h : a ∈ t) : Kept t R (setObj a o) := by
  intro vm b vm' hr
  cases hr
  exact ⟨stable_setObj vm a o, fun ht => Frame.store vm a o (ht a h)⟩

/-- proves `Kept t R f` for a block: like `vm_rel`, and keeps the cells read or allocated on the way in `t` -/
syntax "vm_kept" : tactic
macro_rules
  | `(tactic| vm_kept) => `(tactic|
      first
      | (refine Kept.of_rel ?_; with_reducible_and_instances exact rel_append _ _)
      | (with_reducible refine Kept.guard_bind (fun _ => ?_)); vm_kept
      | (with_reducible refine Kept.alloc_bind (fun _ => ?_)); vm_kept
      | (with_reducible refine Kept.bind ?_ (fun _ => ?_)) <;> vm_kept
      | (fail_if_success (with_reducible refine Kept.bind ?_ (fun _ => ?_))
         first
         | (refine Kept.setObj _ ?_; simp only [List.mem_cons, true_or, or_true]; done)
         | (refine Kept.of_rel ?_; simp only [vm_spec, implies_true]; done)
         | (with_reducible apply_assumption; done)
         | (split <;> vm_kept)
         | (fail_if_success split; dsimp only; vm_kept)))

end Never.Vm
