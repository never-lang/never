/-
The evaluator is put together from the store operations by `>>=`, `tryCatch` and case distinctions, and calls itself
with one unit of fuel less.  So a relation that these respect, and that relates `oof` to everything, relates each run to
the run with one more unit of fuel (`compatAt`).  Fuel monotonicity is the instance `Mono`: a run that does not end in
`outOfFuel` is unchanged by more fuel.
-/
import NeverModel.Lemmas.SrcAlpha
namespace Never.Src

/-- the computations put together from the store operations alone: no call of the evaluator, no fuel -/
class inductive Prim : {α : Type} → M α → Prop
  | pure (a : α) : Prim (pure a)
  | throwE (e : Exc) : Prim (throwE e : M α)
  | stopM (k : Stop) : Prim (stopM k : M α)
  | alloc (v : Val) : Prim (alloc v)
  | load (l : Loc) : Prim (load l)
  | store (l : Loc) (v : Val) : Prim (store l v)
  | emit (b : Bytes) : Prim (emit b)
  | logClo (n : Nat) : Prim (logClo n)
  | bind {m : M α} {k : α → M β} : Prim m → (∀ a, Prim (k a)) → Prim (m >>= k)
  | read {f : St → M α} : (∀ t, Prim (f t)) → Prim (fun s => f s s)

attribute [instance] Prim.pure Prim.throwE Prim.stopM Prim.alloc Prim.load Prim.store Prim.emit Prim.logClo

instance {m : M α} {k : α → M β} [hm : Prim m] [hk : ∀ a, Prim (k a)] : Prim (m >>= k) := .bind hm hk
instance {c : Prop} [Decidable c] {a b : M α} [ha : Prim a] [hb : Prim b] : Prim (if c then a else b) := by
  split
  · exact ha
  · exact hb
instance (msg : String) : Prim (stuck msg : M α) := .stopM _

/-- `Prim m`, along the shape of `m`; what the instances do not reach are the case distinctions under a `>>=` -/
syntax "prim_tac" : tactic
macro_rules
  | `(tactic| prim_tac) => `(tactic| repeat (first | infer_instance | intro _ | split | apply Prim.bind))

instance Prim.liftOp (r : OpRes) : Prim (liftOp r) := by cases r <;> simp only [Never.Src.liftOp] <;> infer_instance
instance Prim.loadVals (ls : List Loc) : Prim (loadVals ls) := by
  induction ls <;> simp only [Never.Src.loadVals] <;> infer_instance
instance Prim.allocRes (rs : List OpRes) : Prim (allocRes rs) := by
  induction rs <;> simp only [Never.Src.allocRes] <;> infer_instance
instance Prim.arrObjOf (o : Loc) : Prim (arrObjOf o) := by unfold Never.Src.arrObjOf; prim_tac
instance Prim.newArr (d : List Nat) (cs : List Loc) : Prim (newArr d cs) := by unfold Never.Src.newArr; prim_tac
instance Prim.arrMap (f : Val → OpRes) (a : Option Loc) : Prim (arrMap f a) := by unfold Never.Src.arrMap; prim_tac
instance Prim.arrZip (op : BinOp) (a b : Option Loc) : Prim (arrZip op a b) := by unfold Never.Src.arrZip; prim_tac
instance Prim.matMul (a b : Option Loc) : Prim (matMul a b) := by unfold Never.Src.matMul; prim_tac
instance Prim.unopM (op : UnOp) (a : Val) : Prim (unopM op a) := by unfold Never.Src.unopM; prim_tac
instance Prim.binopM (op : BinOp) (a b : Val) : Prim (binopM op a b) := by unfold Never.Src.binopM; prim_tac
instance Prim.truthy (v : Val) : Prim (truthy v) := by unfold Never.Src.truthy; prim_tac
instance Prim.convCell (t : Ty) (l : Loc) : Prim (convCell t l) := by unfold Never.Src.convCell; prim_tac
instance Prim.convCells (ts : List Ty) (ls : List Loc) : Prim (convCells ts ls) := by
  induction ts generalizing ls with
  | nil => simp only [Never.Src.convCells]; infer_instance
  | cons t ts ih => cases ls <;> simp only [Never.Src.convCells] <;> infer_instance
instance Prim.allocN (n : Nat) (v : Val) : Prim (allocN n v) := by
  induction n <;> simp only [Never.Src.allocN] <;> infer_instance
instance Prim.getInt (l : Loc) : Prim (getInt l) := by unfold Never.Src.getInt; prim_tac
instance Prim.getInts (ls : List Loc) : Prim (getInts ls) := by
  induction ls <;> simp only [Never.Src.getInts] <;> infer_instance
instance Prim.arrDeref (va : Val) (idx : List Int) : Prim (arrDeref va idx) := by unfold Never.Src.arrDeref; prim_tac
instance Prim.runBuiltin (b : Builtin) (args : List Val) : Prim (runBuiltin b args) := by
  unfold Never.Src.runBuiltin; prim_tac
instance Prim.loadAll (ls : List Loc) : Prim (loadAll ls) := by
  induction ls <;> simp only [Never.Src.loadAll] <;> infer_instance
instance Prim.assignVal (a b : Val) : Prim (assignVal a b) := by unfold Never.Src.assignVal; prim_tac
instance Prim.allocInts (is : List Int) : Prim (allocInts is) := by
  induction is <;> simp only [Never.Src.allocInts] <;> infer_instance
instance Prim.rngBounds (o : Loc) : Prim (rngBounds o) := by unfold Never.Src.rngBounds; prim_tac
instance Prim.sliceRangeM (a b c d : Int) : Prim (sliceRangeM a b c d) := by unfold Never.Src.sliceRangeM; prim_tac
instance Prim.composeDims (r1 r2 : List (Int × Int)) : Prim (composeDims r1 r2) := by
  induction r1 generalizing r2 with
  | nil => cases r2 <;> simp only [Never.Src.composeDims] <;> infer_instance
  | cons p r1 ih => cases r2 <;> simp only [Never.Src.composeDims] <;> infer_instance
instance Prim.allocRng (ps : List (Int × Int)) : Prim (allocRng ps) := by unfold Never.Src.allocRng; prim_tac
instance Prim.sliceOf (v : Val) (rb : Loc) : Prim (sliceOf v rb) := by unfold Never.Src.sliceOf; prim_tac
instance Prim.rangePositions (rs : List (Int × Int)) (is : List Int) : Prim (rangePositions rs is) := by
  induction rs generalizing is with
  | nil => cases is <;> simp only [Never.Src.rangePositions] <;> infer_instance
  | cons p rs ih => cases is <;> simp only [Never.Src.rangePositions] <;> infer_instance
instance Prim.rangeDeref (r : Option Loc) (idx : List Int) : Prim (rangeDeref r idx) := by
  unfold Never.Src.rangeDeref; prim_tac
instance Prim.sliceDeref (r : Option Loc) (idx : List Int) : Prim (sliceDeref r idx) := by
  unfold Never.Src.sliceDeref; prim_tac
instance Prim.rngLoopInit (ro : Loc) : Prim (rngLoopInit ro) := by unfold Never.Src.rngLoopInit; prim_tac
instance Prim.slcLoopInit (so : Loc) : Prim (slcLoopInit so) := by unfold Never.Src.slcLoopInit; prim_tac
instance Prim.rngElem (ao : Option Loc) (cur : Int) : Prim (rngElem ao cur) := by unfold Never.Src.rngElem; prim_tac
instance Prim.pipeArgs (l : Loc) : Prim (pipeArgs l) := by unfold Never.Src.pipeArgs; prim_tac
instance Prim.dimValue (p : Loc) (k : Nat) : Prim (dimValue p k) := by unfold Never.Src.dimValue; prim_tac
instance Prim.bindDimRefs (ds : List Name) (l : Loc) (k : Nat) (env : Env) : Prim (bindDimRefs ds l k env) := by
  induction ds generalizing k env <;> simp only [Never.Src.bindDimRefs] <;> infer_instance
instance Prim.bindDimsOf (ds : List Name) (l : Loc) (env : Env) : Prim (bindDimsOf ds l env) :=
  Prim.bindDimRefs ds l 0 env
instance Prim.bindParams (ps : List Param) (args : List Loc) (env : Env) : Prim (bindParams ps args env) := by
  induction ps generalizing args env with
  | nil => simp only [Never.Src.bindParams]; infer_instance
  | cons p ps ih => cases args <;> simp only [Never.Src.bindParams] <;> infer_instance
instance Prim.fillFuncs (cells : List Loc) (fs : List Func) (l : Loc) : Prim (fillFuncs cells fs l) := by
  induction fs generalizing l <;> simp only [Never.Src.fillFuncs] <;> infer_instance
instance Prim.allocGroup (fs : List Func) (env : Env) : Prim (allocGroup fs env) :=
  .read (f := fun t => do
    let _ ← Never.Src.allocN fs.length (.clo none)
    Never.Src.fillFuncs (locs (pushFuncs fs t.mem.size env)) fs t.mem.size
    Pure.pure (pushFuncs fs t.mem.size env)) fun _ => inferInstance
instance Prim.allocArgs (as : List Arg) : Prim (allocArgs as) := by
  induction as <;> simp only [Never.Src.allocArgs] <;> infer_instance

/-- a relation between computations that `>>=` and `tryCatch` respect, that relates `oof` to everything and a computation
that does not call the evaluator to itself -/
structure Compat (R : ∀ {α : Type}, M α → M α → Prop) : Prop where
  bind : ∀ {α β : Type} {m m' : M α} {k k' : α → M β}, R m m' → (∀ a, R (k a) (k' a)) → R (m >>= k) (m' >>= k')
  tryCatch : ∀ {α : Type} {m m' : M α} {k k' : Exc → M α}, R m m' → (∀ e, R (k e) (k' e)) → R (tryCatch m k) (tryCatch m' k')
  oof : ∀ {α : Type} {m' : M α}, R oof m'
  prim : ∀ {α : Type} {m : M α} [Prim m], R m m

/-- `R` relates every evaluator function at fuel `n` to itself at fuel `n + 1` -/
structure CompatAt (R : ∀ {α : Type}, M α → M α → Prop) (n : Nat) : Prop where
  e : ∀ ctx env e, R (evalE n ctx env e) (evalE (n + 1) ctx env e)
  args : ∀ ctx env es, R (evalArgs n ctx env es) (evalArgs (n + 1) ctx env es)
  seq : ∀ ctx env items, R (evalSeq n ctx env items) (evalSeq (n + 1) ctx env items)
  whl : ∀ ctx env c b, R (evalWhile n ctx env c b) (evalWhile (n + 1) ctx env c b)
  doWhl : ∀ ctx env b c, R (evalDoWhile n ctx env b c) (evalDoWhile (n + 1) ctx env b c)
  for_ : ∀ ctx env c s b, R (evalFor n ctx env c s b) (evalFor (n + 1) ctx env c s b)
  forIn : ∀ ctx env x lc i b, R (evalForIn n ctx env x lc i b) (evalForIn (n + 1) ctx env x lc i b)
  call : ∀ ctx fid cells as, R (callClo n ctx fid cells as) (callClo (n + 1) ctx fid cells as)
  hdl : ∀ ctx env cs ex, R (handle n ctx env cs ex) (handle (n + 1) ctx env cs ex)
  guards : ∀ ctx env l gs, R (evalGuards n ctx env l gs) (evalGuards (n + 1) ctx env l gs)
  quals : ∀ ctx env qs body ty o, R (evalQuals n ctx env qs body ty o) (evalQuals (n + 1) ctx env qs body ty o)
  gen : ∀ ctx env x lc i qs body ty o, R (evalGen n ctx env x lc i qs body ty o) (evalGen (n + 1) ctx env x lc i qs body ty o)
  forRng : ∀ ctx env x ao cur asc lt b, R (evalForRng n ctx env x ao cur asc lt b) (evalForRng (n + 1) ctx env x ao cur asc lt b)
  genRng : ∀ ctx env x ao cur asc lt qs body ty o, R (evalGenRng n ctx env x ao cur asc lt qs body ty o) (evalGenRng (n + 1) ctx env x ao cur asc lt qs body ty o)

/-- `R lhs rhs` for two sides of the same shape, along that shape; the leaves are calls of the evaluator with less fuel
(`ih`) or do not call it -/
syntax "compat_tac" ident ident : tactic
macro_rules
  | `(tactic| compat_tac $h $ih) => `(tactic| repeat (first
      | intro _
      | with_reducible exact Compat.prim $h
      | with_reducible apply Compat.bind $h
      | with_reducible apply CompatAt.e $ih
      | with_reducible apply CompatAt.args $ih
      | with_reducible apply CompatAt.seq $ih
      | with_reducible apply CompatAt.whl $ih
      | with_reducible apply CompatAt.doWhl $ih
      | with_reducible apply CompatAt.for_ $ih
      | with_reducible apply CompatAt.forIn $ih
      | with_reducible apply CompatAt.call $ih
      | with_reducible apply CompatAt.hdl $ih
      | with_reducible apply CompatAt.guards $ih
      | with_reducible apply CompatAt.quals $ih
      | with_reducible apply CompatAt.gen $ih
      | with_reducible apply CompatAt.forRng $ih
      | with_reducible apply CompatAt.genRng $ih
      | split
      | apply Compat.tryCatch $h))

section
variable {R : ∀ {α : Type}, M α → M α → Prop} (h : Compat R)
include h

theorem compat_zero : CompatAt R 0 := by
  constructor <;> intros <;> simp only [evalE, evalArgs, evalSeq, evalWhile, evalDoWhile, evalFor, evalForIn, callClo, handle, evalGuards, evalQuals, evalGen, evalForRng, evalGenRng] <;> exact h.oof

theorem compat_e (n : Nat) (ih : CompatAt R n) (ctx : Ctx) (env : Env) (e : Expr) :
    R (evalE (n + 1) ctx env e) (evalE (n + 2) ctx env e) := by
  cases e <;> simp only [evalE] <;> compat_tac h ih

theorem compat_seq (n : Nat) (ih : CompatAt R n) (ctx : Ctx) (env : Env) (items : List Item) :
    R (evalSeq (n + 1) ctx env items) (evalSeq (n + 2) ctx env items) := by
  cases items with
  | nil => simp only [evalSeq]; compat_tac h ih
  | cons it rest =>
    cases it with
    | expr e => cases rest <;> simp only [evalSeq] <;> compat_tac h ih
    | bind v x e => simp only [evalSeq]; compat_tac h ih
    | funcs fs => simp only [evalSeq]; compat_tac h ih

theorem compat_guards (n : Nat) (ih : CompatAt R n) (ctx : Ctx) (env : Env) (l : Loc) (gs : List Guard) :
    R (evalGuards (n + 1) ctx env l gs) (evalGuards (n + 2) ctx env l gs) := by
  cases gs with
  | nil => simp only [evalGuards]; compat_tac h ih
  | cons g gs => cases g <;> simp only [evalGuards] <;> compat_tac h ih

theorem compat_quals (n : Nat) (ih : CompatAt R n) (ctx : Ctx) (env : Env) (qs : List Qual) (body : Expr) (ty : Ty) (o : Loc) :
    R (evalQuals (n + 1) ctx env qs body ty o) (evalQuals (n + 2) ctx env qs body ty o) := by
  cases qs with
  | nil => simp only [evalQuals]; compat_tac h ih
  | cons q qs => cases q <;> simp only [evalQuals] <;> compat_tac h ih

theorem compatAt : ∀ n, CompatAt R n
  | 0 => compat_zero h
  | n + 1 =>
    have ih := compatAt n
    { e := compat_e h n ih
      args := fun ctx env es => by cases es <;> simp only [evalArgs] <;> compat_tac h ih
      seq := compat_seq h n ih
      whl := fun ctx env c b => by rw [evalWhile, evalWhile]; compat_tac h ih
      doWhl := fun ctx env b c => by rw [evalDoWhile, evalDoWhile]; compat_tac h ih
      for_ := fun ctx env c s b => by rw [evalFor, evalFor]; compat_tac h ih
      forIn := fun ctx env x lc i b => by rw [evalForIn, evalForIn]; compat_tac h ih
      call := fun ctx fid cells as => by rw [callClo, callClo]; compat_tac h ih
      hdl := fun ctx env cs ex => by cases cs <;> simp only [handle] <;> compat_tac h ih
      guards := compat_guards h n ih
      quals := compat_quals h n ih
      gen := fun ctx env x lc i qs body ty o => by rw [evalGen, evalGen]; compat_tac h ih
      forRng := fun ctx env x ao cur asc lt b => by rw [evalForRng, evalForRng]; compat_tac h ih
      genRng := fun ctx env x ao cur asc lt qs body ty o => by rw [evalGenRng, evalGenRng]; compat_tac h ih }

end

def Res.isOOF : Res α → Prop
  | .stop .outOfFuel _ => True
  | _ => False

/-- `m'` agrees with `m` wherever `m` does not run out of fuel -/
structure Mono (m m' : M α) : Prop where
  h : ∀ s, ¬ (m s).isOOF → m' s = m s

theorem Mono.rfl {m : M α} : Mono m m := ⟨fun _ _ => Eq.refl _⟩

theorem Mono.bind {m m' : M α} {k k' : α → M β} (h : Mono m m') (hk : ∀ a, Mono (k a) (k' a)) :
    Mono (m >>= k) (m' >>= k') := by
  constructor
  intro s hn
  simp only [bind_eq, M.bind] at hn ⊢
  cases hm : m s with
  | ok a s1 =>
    rw [hm] at hn
    have := h.h s (by rw [hm]; exact fun h => h)
    rw [this, hm]
    exact (hk a).h s1 hn
  | exc e s1 =>
    have := h.h s (by rw [hm]; exact fun h => h)
    rw [this, hm]
  | stop c s1 =>
    rw [hm] at hn
    simp only at hn
    have hα : ¬ (Res.stop c s1 : Res α).isOOF := by
      cases c <;> first | exact fun h => h | exact hn
    have := h.h s (by rw [hm]; exact hα)
    rw [this, hm]

theorem Mono.tryCatch {m m' : M α} {k k' : Exc → M α} (h : Mono m m') (hk : ∀ e, Mono (k e) (k' e)) :
    Mono (tryCatch m k) (tryCatch m' k') := by
  constructor
  intro s hn
  simp only [Never.Src.tryCatch] at hn ⊢
  cases hm : m s with
  | ok a s1 =>
    have := h.h s (by rw [hm]; exact fun h => h)
    rw [this, hm]
  | exc e s1 =>
    rw [hm] at hn
    have := h.h s (by rw [hm]; exact fun h => h)
    rw [this, hm]
    exact (hk e).h s1 hn
  | stop c s1 =>
    rw [hm] at hn
    simp only at hn
    have := h.h s (by rw [hm]; exact hn)
    rw [this, hm]

theorem Mono.oof {m' : M α} : Mono (oof : M α) m' := by
  constructor
  intro s hn
  exact absurd trivial hn

structure MonoAt (n : Nat) : Prop where
  e : ∀ ctx env e, Mono (evalE n ctx env e) (evalE (n + 1) ctx env e)
  args : ∀ ctx env es, Mono (evalArgs n ctx env es) (evalArgs (n + 1) ctx env es)
  seq : ∀ ctx env items, Mono (evalSeq n ctx env items) (evalSeq (n + 1) ctx env items)
  whl : ∀ ctx env c b, Mono (evalWhile n ctx env c b) (evalWhile (n + 1) ctx env c b)
  doWhl : ∀ ctx env b c, Mono (evalDoWhile n ctx env b c) (evalDoWhile (n + 1) ctx env b c)
  for_ : ∀ ctx env c s b, Mono (evalFor n ctx env c s b) (evalFor (n + 1) ctx env c s b)
  forIn : ∀ ctx env x lc i b, Mono (evalForIn n ctx env x lc i b) (evalForIn (n + 1) ctx env x lc i b)
  call : ∀ ctx fid cells as, Mono (callClo n ctx fid cells as) (callClo (n + 1) ctx fid cells as)
  hdl : ∀ ctx env cs ex, Mono (handle n ctx env cs ex) (handle (n + 1) ctx env cs ex)
  guards : ∀ ctx env l gs, Mono (evalGuards n ctx env l gs) (evalGuards (n + 1) ctx env l gs)
  quals : ∀ ctx env qs body ty o, Mono (evalQuals n ctx env qs body ty o) (evalQuals (n + 1) ctx env qs body ty o)
  gen : ∀ ctx env x lc i qs body ty o, Mono (evalGen n ctx env x lc i qs body ty o) (evalGen (n + 1) ctx env x lc i qs body ty o)
  forRng : ∀ ctx env x ao cur asc lt b, Mono (evalForRng n ctx env x ao cur asc lt b) (evalForRng (n + 1) ctx env x ao cur asc lt b)
  genRng : ∀ ctx env x ao cur asc lt qs body ty o, Mono (evalGenRng n ctx env x ao cur asc lt qs body ty o) (evalGenRng (n + 1) ctx env x ao cur asc lt qs body ty o)

theorem Mono.compat : Compat @Mono := ⟨Mono.bind, Mono.tryCatch, Mono.oof, Mono.rfl⟩

theorem monoAt (n : Nat) : MonoAt n :=
  have h := compatAt Mono.compat n
  ⟨h.e, h.args, h.seq, h.whl, h.doWhl, h.for_, h.forIn, h.call, h.hdl, h.guards, h.quals, h.gen, h.forRng, h.genRng⟩

/-- more fuel never changes a run that did not run out of fuel -/
theorem mono_le (n m : Nat) (h : n ≤ m) : (∀ ctx fid cells as, Mono (callClo n ctx fid cells as) (callClo m ctx fid cells as)) := by
  induction h with
  | refl => intros; exact Mono.rfl
  | step hle ih =>
    intro ctx fid cells as
    constructor
    intro s hn
    have h1 := (ih ctx fid cells as).h s hn
    have h2 := ((monoAt _).call ctx fid cells as).h s (by rw [h1]; exact hn)
    rw [h2, h1]

end Never.Src
