import NeverModel.Lemmas.VerWrite
import NeverModel.Lemmas.VmFreeSound
set_option linter.unusedSimpArgs false
set_option linter.unusedVariables false
/-! calls and returns: the frame records MARK pushes, as a ghost list beside the machine; the global invariant -/
namespace Never.Ver
open Never Never.Vm

/-- the three words RET reads through are in place; returning through the record lands at the recorded height of its return
address (`F − 4`, the slot the result is copied to, is `pp_saved + nparams + h(ra)`); no run of `INT` pushes continues there -/
def RecData (md : Module) (hm : HMap) (vm : Vm) (r : Rec) : Prop :=
  slot vm (r.F - 4) = .stk r.pp ∧ slot vm (r.F - 1) = .stk r.fp ∧ slot vm r.F = .ip r.ra ∧
  (∃ st, hm[r.ra]? = some (some st) ∧ r.F - 4 = r.pp + (fnParamsAt md r.ra : Int) + (st.h : Int)) ∧ intRun md r.ra = []

/-- the live records lie one below the other, five words apart at least (innermost first) -/
def Desc5 : List Rec → Prop
  | [] => True
  | r :: rs => (∀ x, x ∈ rs → x.F + 5 ≤ r.F) ∧ Desc5 rs

/-- the live records seen from a function with frame base `pp`, parameters up to `base = pp + nparams` and the calls `ms` in
preparation: first the pending records of these calls, at the heights `ms` say, then the record the function was entered through
(`F = pp`; none at the bottom of the run) and the records of its callers -/
def Split (bot pp base : Int) (ms : List Nat) (recs : List Rec) : Prop :=
  ∃ pend rest, recs = pend ++ rest ∧ pend.map (·.F) = ms.map (fun (m : Nat) => base + (m : Int) + 5) ∧ topF bot rest = pp

/-- the same at a handler entry, where the pending records are only known to lie above `pp` (CLEAR_STACK will drop them) -/
def SplitH (bot pp : Int) (recs : List Rec) : Prop :=
  ∃ pend rest, recs = pend ++ rest ∧ (∀ r, r ∈ pend → pp < r.F) ∧ topF bot rest = pp

/-- the live records, innermost first, form the chain RET walks: each saved `fp` is the record below, each record is intact, and
the records below it are what the function that pushed it will find when the call returns -/
def WF (md : Module) (hm : HMap) (bot : Int) (vm : Vm) : List Rec → Prop
  | [] => True
  | r :: rs => r.fp = topF bot rs ∧ RecData md hm vm r ∧
      Split bot r.pp (r.pp + (fnParamsAt md r.ra : Int)) (marksAt hm r.ra) rs ∧ WF md hm bot vm rs

/-- the machine is at the recorded height of its address; the live records are those of the calls in preparation there, then the
callers'; the slots above hold the constants of the `INT` run that ends at `ip` -/
structure Here (md : Module) (hm : HMap) (bot : Int) (vm : Vm) (recs : List Rec) : Prop where
  height : AtHeight md hm vm
  split : Split bot vm.pp (vm.pp + (fnParamsAt md vm.ip : Int)) (marksAt hm vm.ip) recs
  consts : stackInts vm (intRun md vm.ip).length vm.sp = some (intRun md vm.ip)

/-- **the global invariant**: the stack array has its size; `fp` is the innermost live record; the live records are apart, intact and
chained; and the machine is at its recorded height (`Here`) or at a handler entry with the pending records above `pp` -/
def Sound0 (md : Module) (hm : HMap) (bot : Int) (vm : Vm) (recs : List Rec) : Prop :=
  StackOk vm ∧ vm.fp = topF bot recs ∧ Desc5 recs ∧ WF md hm bot vm recs ∧
  (Here md hm bot vm recs ∨ (AtHandler md hm vm ∧ SplitH bot vm.pp recs))

/-- "function objects hold entry addresses of functions of the right arity": the function value a CALL finds is nil (address 0:
the VM raises nil_pointer) or the entry of a function with as many parameters as arguments lie above the frame record -/
def CallOk (md : Module) (vm : Vm) : Prop :=
  ∀ env fip, calleeOf vm = some (env, fip) → fip = 0 ∨ (fip ∈ funcStarts md ∧ vm.sp - 1 = vm.fp + (fnParamsAt md fip : Int))

/-- **the arity condition, as a statement about the function value alone**: the function object a CALL finds on top of the stack holds
the nil address, or the entry address of a function whose parameter count is the number of arguments this call site passes
(`callArgs`, a static property of the site read off the certificate).  Nothing about registers or the stack layout is assumed:
in a state satisfying the invariant it implies `CallOk` (`calleeArity_callOk`). -/
def CalleeArity (md : Module) (hm : HMap) (vm : Vm) : Prop :=
  ∀ env fip, calleeOf vm = some (env, fip) → fip = 0 ∨ (fip ∈ funcStarts md ∧ fnParamsAt md fip = callArgs md hm vm.ip)

/-- the allocator hands out a free cell inside the heap (or the heap is exhausted and the allocation fails) -/
def AllocFresh (vm : Vm) : Prop := vm.gc.free = 0 ∨ (vm.gc.free < vm.gc.mem.size ∧ vm.gc.mem.objAt vm.gc.free = none)

section
variable {md : Module} {hm : HMap} {bot : Int}

/-! ### lists of records -/

theorem Split.toH {pp base : Int} {ms : List Nat} {recs : List Rec} (h : Split bot pp base ms recs) (hb : pp ≤ base) : SplitH bot pp recs := by
  obtain ⟨pend, rest, e, hF, ht⟩ := h
  refine ⟨pend, rest, e, fun r hr => ?_, ht⟩
  have : r.F ∈ pend.map (·.F) := List.mem_map_of_mem hr
  rw [hF] at this
  obtain ⟨m, _, hm⟩ := List.mem_map.mp this
  omega

/-- the innermost live record is that of the innermost call in preparation, or the one the function was entered through -/
theorem Split.topF_eq {pp base : Int} {ms : List Nat} {recs : List Rec} (h : Split bot pp base ms recs) :
    topF bot recs = recTop pp base ms := by
  obtain ⟨pend, rest, rfl, hF, ht⟩ := h
  cases ms with
  | nil =>
    cases pend with
    | nil => exact ht
    | cons p ps => cases hF
  | cons m ms' =>
    cases pend with
    | nil => cases hF
    | cons p ps => exact (List.cons.inj hF).1

theorem Desc5.le_topF {recs : List Rec} (hd : Desc5 recs) {r : Rec} (hr : r ∈ recs) : r.F ≤ topF bot recs := by
  cases recs with
  | nil => cases hr
  | cons r0 t =>
    rcases List.mem_cons.mp hr with rfl | hr'
    · exact Int.le_refl _
    · have := hd.1 r hr'
      simp only [topF]
      omega

/-- every live record lies at or below `recTop` -/
theorem Split.le_top {pp base : Int} {ms : List Nat} {recs : List Rec} (h : Split bot pp base ms recs) (hd : Desc5 recs) :
    ∀ r, r ∈ recs → r.F ≤ recTop pp base ms :=
  fun r hr => h.topF_eq ▸ hd.le_topF hr

theorem Desc5.tail {r : Rec} {rs : List Rec} (h : Desc5 (r :: rs)) : Desc5 rs := h.2

/-- CLEAR_STACK's `fp := pp` drops exactly the pending records -/
theorem SplitH.dropWhile {pp : Int} {recs : List Rec} (h : SplitH bot pp recs) :
    ∃ rest, recs.dropWhile (fun r => decide (r.F ≠ pp)) = rest ∧ topF bot rest = pp ∧ rest <:+ recs := by
  obtain ⟨pend, rest, e, hp, ht⟩ := h
  refine ⟨rest, ?_, ht, by rw [e]; exact List.suffix_append _ _⟩
  subst e
  induction pend with
  | nil =>
    simp only [List.nil_append]
    cases rest with
    | nil => rfl
    | cons r0 t =>
      simp only [topF] at ht
      rw [List.dropWhile_cons_of_neg (by simp [ht])]
  | cons p ps ih =>
    have : p.F ≠ pp := by have := hp p List.mem_cons_self; omega
    simp only [List.cons_append]
    rw [List.dropWhile_cons_of_pos (by simp [this])]
    exact ih (fun r hr => hp r (List.mem_cons_of_mem _ hr))

theorem WF_suffix {vm : Vm} : ∀ (recs rest : List Rec), rest <:+ recs → WF md hm bot vm recs → WF md hm bot vm rest := by
  intro recs
  induction recs with
  | nil => intro rest hs h; have := List.suffix_nil.mp hs; subst this; exact h
  | cons r rs ih =>
    intro rest hs h
    rcases List.suffix_cons_iff.mp hs with e | hs'
    · subst e; exact h
    · exact ih rest hs' h.2.2.2

theorem Desc5_suffix : ∀ (recs rest : List Rec), rest <:+ recs → Desc5 recs → Desc5 rest := by
  intro recs
  induction recs with
  | nil => intro rest hs h; have := List.suffix_nil.mp hs; subst this; exact h
  | cons r rs ih =>
    intro rest hs h
    rcases List.suffix_cons_iff.mp hs with e | hs'
    · subst e; exact h
    · exact ih rest hs' h.2

theorem Desc5.dropWhile (p : Rec → Bool) : ∀ (recs : List Rec), Desc5 recs → Desc5 (recs.dropWhile p) :=
  fun recs => Desc5_suffix recs _ (List.dropWhile_suffix p)

/-- records whose five words are unchanged stay well-formed -/
theorem WF_transfer {vm vm' : Vm} : ∀ (recs : List Rec), WF md hm bot vm recs →
    (∀ r, r ∈ recs → ∀ j, r.F - 4 ≤ j → j ≤ r.F → slot vm' j = slot vm j) → WF md hm bot vm' recs := by
  intro recs
  induction recs with
  | nil => intro _ _; trivial
  | cons r rs ih =>
    intro h hk
    obtain ⟨h1, ⟨d1, d2, d3, d4, d5⟩, h3, h4⟩ := h
    have k := hk r List.mem_cons_self
    exact ⟨h1, ⟨by rw [k _ (by omega) (by omega)]; exact d1, by rw [k _ (by omega) (by omega)]; exact d2,
      by rw [k _ (by omega) (Int.le_refl _)]; exact d3, d4, d5⟩, h3, ih h4 (fun x hx => hk x (List.mem_cons_of_mem _ hx))⟩

theorem slot_of_stack_eq {vm vm' : Vm} (h : vm'.stack = vm.stack) (j : Int) : slot vm' j = slot vm j := by
  unfold slot; rw [h]

/-! ### `INT` and the constants of an `INT` run -/

theorem stackInts_zero (vm : Vm) (s : Int) : stackInts vm 0 s = some [] := rfl

theorem stackInts_take (vm : Vm) : ∀ (n : Nat) (s : Int) (l : List Int), stackInts vm n s = some l → ∀ k, k ≤ n → stackInts vm k s = some (l.take k) := by
  intro n
  induction n with
  | zero => intro s l h k hk; have : k = 0 := by omega
            subst this; simp [stackInts_zero]
  | succ n ih =>
    intro s l h k hk
    cases k with
    | zero => simp [stackInts_zero]
    | succ k =>
      unfold stackInts at h ⊢
      split at h
      · cases h
      · rename_i hb
        rw [if_neg hb]
        simp only at h ⊢
        split at h
        · cases h
        · rename_i hsz
          rw [if_neg hsz]
          split at h
          · rename_i v hv
            cases hr : stackInts vm n (s - 1) with
            | none => rw [hr] at h; cases h
            | some l' =>
              rw [hr] at h
              simp only [Option.map_some, Option.some.injEq] at h
              subst h
              rw [ih _ _ hr k (by omega)]
              simp
          · cases h

/-- a machine that differs only above slot `s` and in cells that were free reads the same integers from the top `k` slots -/
theorem stackInts_mono {vm vm2 : Vm} (hsz : vm2.stackSize = vm.stackSize) (hms : vm2.gc.mem.size = vm.gc.mem.size)
    (hobj : ∀ a, vm.gc.mem.objAt a ≠ none → vm2.gc.mem.objAt a = vm.gc.mem.objAt a) :
    ∀ (k : Nat) (s : Int) (l : List Int), (∀ j : Int, 0 ≤ j → j ≤ s → vm2.stack[j.toNat]? = vm.stack[j.toNat]?) →
      stackInts vm k s = some l → stackInts vm2 k s = some l := by
  intro k
  induction k with
  | zero => intro s l _ h; exact h
  | succ k ih =>
    intro s l hst h
    unfold stackInts at h ⊢
    rw [hsz, hms]
    split at h
    · cases h
    · rename_i hb
      rw [if_neg hb]
      simp only at h ⊢
      rw [hst s (by omega) (Int.le_refl _)]
      split at h
      · cases h
      · rename_i hsz'
        rw [if_neg hsz']
        split at h
        · rename_i v hv
          rw [hobj _ (by rw [hv]; simp), hv]
          simp only
          cases hr : stackInts vm k (s - 1) with
          | none => rw [hr] at h; cases h
          | some l' =>
            rw [hr] at h
            rw [ih (s - 1) l' (fun j h0 hj => hst j h0 (by omega)) hr]
            exact h
        · cases h

/-- the handler of `INT c`: one cell from the allocator, one push -/
theorem exec_INT (md : Module) (ins : Instr) (orc : Oracle) (hop : ins.op = .INT) (vm vm' : Vm)
    (h : (exec md ins orc).run vm = .ok ((), vm')) :
    vm.gc.free ≠ 0 ∧ vm'.gc.mem = vm.gc.mem.setObj vm.gc.free (some (.int (bv32 ins.w0))) ∧
    vm'.stack = vm.stack.setIfInBounds (vm.sp + 1).toNat (.addr vm.gc.free) ∧ 0 ≤ vm.sp + 1 ∧ vm.sp + 1 < vm.stackSize ∧
    vm'.sp = vm.sp + 1 ∧ vm'.fp = vm.fp ∧ vm'.pp = vm.pp ∧ vm'.ip = vm.ip ∧ vm'.running = vm.running ∧ vm'.stackSize = vm.stackSize := by
  exec_unfold hop at h
  obtain ⟨sp, s0, h0, hA⟩ := (run_bind_ok _ _ _ _ _).mp h
  obtain ⟨_, e0'⟩ := getSp_run _ _ _ h0
  rw [e0'] at hA
  obtain ⟨loc, v1, h1, hB⟩ := (run_bind_ok _ _ _ _ _).mp hA
  -- the allocation
  unfold alloc at h1
  obtain ⟨v0, v0', h3, h4⟩ := (run_bind_ok _ _ _ _ _).mp h1
  obtain ⟨e3, e3'⟩ := get_run _ _ _ h3
  rw [e3, e3'] at h4
  split at h4
  · exact absurd h4 (exitVm_run _ _ _ _ _)
  · rename_i g l hg
    obtain ⟨u, v2, h5, h6⟩ := (run_bind_ok _ _ _ _ _).mp h4
    have e5 := set_run _ _ _ _ h5
    obtain ⟨e6, e7⟩ := (run_pure_ok _ _ _ _).mp h6
    obtain ⟨el, hfree, hmem, _⟩ := alloc_fields hg
    -- the push
    obtain ⟨b1, b0, e9⟩ := pushP_eq (pushAddr_run hB)
    subst e7 e5 e6 el e9
    exact ⟨hfree, hmem, rfl, b0, b1, rfl, rfl, rfl, rfl, rfl, rfl⟩

/-- **`INT` extends the run of constants on the stack**, when the allocator hands it a free cell: the integers the top slots point at
are the new constant followed by those that were there -/
theorem int_extends_consts (md : Module) (ins : Instr) (orc : Oracle) (hop : ins.op = .INT) (vm vm' : Vm) (hso : StackOk vm)
    (hfresh : AllocFresh vm) (k : Nat) (l : List Int) (hl : stackInts vm k vm.sp = some l)
    (h : (exec md ins orc).run vm = .ok ((), vm')) :
    stackInts vm' (k + 1) vm'.sp = some ((bv32 ins.w0).toInt :: l) := by
  obtain ⟨hf0, hmem, hstk, b0, b1, hsp, _, _, _, _, hsz⟩ := exec_INT md ins orc hop vm vm' h
  rcases hfresh with hz | ⟨hlt, hnone⟩
  · exact absurd hz hf0
  have hms : vm'.gc.mem.size = vm.gc.mem.size := by rw [hmem]; simp
  have hobj : ∀ a, vm.gc.mem.objAt a ≠ none → vm'.gc.mem.objAt a = vm.gc.mem.objAt a := by
    intro a ha
    rw [hmem, Mem.objAt_setObj]
    have : ¬ (vm.gc.free = a ∧ vm.gc.free < vm.gc.mem.size) := by
      rintro ⟨e, _⟩; rw [← e] at ha; exact ha hnone
    rw [if_neg this]
  have hnew : vm'.gc.mem.objAt vm.gc.free = some (.int (bv32 ins.w0)) := by
    rw [hmem, Mem.objAt_setObj]; simp [hlt]
  have hst : ∀ j : Int, 0 ≤ j → j ≤ vm.sp → vm'.stack[j.toNat]? = vm.stack[j.toNat]? := by
    intro j h0 hj
    rw [hstk]
    have : (vm.sp + 1).toNat ≠ j.toNat := by omega
    simp [Array.getElem?_setIfInBounds, this]
  have hold := stackInts_mono hsz hms hobj k vm.sp l hst hl
  have htop : vm'.stack[(vm.sp + 1).toNat]? = some (.addr vm.gc.free) := by
    rw [hstk]
    have : (vm.sp + 1).toNat < vm.stack.size := by unfold StackOk at hso; rw [hso]; omega
    simp [Array.getElem?_setIfInBounds, this]
  rw [hsp]
  unfold stackInts
  rw [hsz, if_neg (by omega)]
  simp only
  have ha : ((vm'.stack[(vm.sp + 1).toNat]?).getD .unknown).asAddr = vm.gc.free := by rw [htop]; rfl
  rw [ha, hms]
  have e : vm.sp + 1 - 1 = vm.sp := by omega
  split
  · rename_i hgt; exact absurd hgt (by omega)
  · rw [hnew]
    simp only
    rw [e, hold]
    rfl


/-! ### helpers about one step -/

theorem ghostNext_other {vm : Vm} {recs : List Rec} {i : Instr} (hi : md.code[vm.ip]? = some i)
    (h1 : i.op ≠ .MARK) (h2 : i.op ≠ .RET) (h3 : i.op ≠ .RETHROW) (h4 : i.op ≠ .CLEAR_STACK) : ghostNext md vm recs = recs := by
  unfold ghostNext
  simp only [hi]


/-- `fp` is the same in both machines -/
def SameFp (vm vm' : Vm) : Prop := vm'.fp = vm.fp

instance : Frame SameFp where
  refl _ := rfl
  trans h1 h2 := h2.trans h1
  out _ _ := rfl
  line _ _ := rfl
  stop _ _ _ _ := rfl
  alloc _ _ _ _ _ := rfl
  store _ _ _ _ := rfl
instance : WrFrame SameFp := ⟨fun _ _ _ => rfl⟩
instance : SpFrame SameFp := ⟨fun _ _ => rfl⟩
instance : IpFrame SameFp := ⟨fun _ _ => rfl⟩

/-- `fp` moves with the live records: every step but MARK, CLEAR_STACK, RET and RETHROW leaves it alone -/
theorem step_fp_kept (orc : Oracle) (vm vm' : Vm) (i : Instr) (hi : md.code[vm.ip]? = some i)
    (hstep : (step md orc).run vm = .ok ((), vm'))
    (h1 : i.op ≠ .MARK) (h2 : i.op ≠ .RET) (h3 : i.op ≠ .RETHROW) (h4 : i.op ≠ .CLEAR_STACK) : vm'.fp = vm.fp := by
  obtain ⟨s2, hx, hcase⟩ := step_exec md orc vm vm' i hi hstep
  -- the exception dispatch moves only `ip` and `running`
  have e : vm'.fp = s2.fp := by
    rcases hcase with ⟨_, e⟩ | ⟨_, _, _, e⟩ <;> rw [e]
  rw [e]
  cases hc : isControl i.op with
  | false => exact (exec_kept (R := SameFp) md i orc hc).rel { vm with ip := vm.ip + 1 } () s2 hx
  | true =>
    rcases isControl_cases hc with h | h | h | h | h | h | h | h | h
    · exact exec_jumpz_rel (R := SameFp) md i orc h { vm with ip := vm.ip + 1 } () s2 hx
    · rw [exec_JUMP md i orc h _ _ hx]
    · exact absurd h h1
    · obtain ⟨a, env, fip, _, _, rfl⟩ := exec_CALL md i orc h _ _ hx
      unfold callP; split <;> rfl
    · rcases exec_SLIDE md i orc h _ _ hx with ⟨_, hg0⟩ | ⟨_, v1, hsl, hgc⟩
      · exact (gcRunPure_regs hg0).2.1
      · rw [(gcRunPure_regs hgc).2.1, (slideP_regs hsl).2.1]
    · exact absurd h h4
    · exact absurd h h2
    · exact absurd h h3
    · rw [exec_HALT md i orc h _ _ hx]

theorem getFunc_val {vm vm' : Vm} {a env fip : Nat} (h : (getFunc a).run vm = .ok ((env, fip), vm')) :
    vm.gc.mem.objAt a = some (.func env fip) := by
  unfold getFunc at h
  obtain ⟨o, v1, h1, h2⟩ := (run_bind_ok _ _ _ _ _).mp h
  obtain ⟨_, ho, _⟩ := objOf_val h1
  split at h2
  · obtain ⟨e1, _⟩ := (run_pure_ok _ _ _ _).mp h2
    cases e1; exact ho
  · exact absurd h2 (crash_run _ _ _ _)

theorem recTop_le_sp {pp : Int} {np h : Nat} {ms : List Nat} (hn : marksNested h ms = true) :
    recTop pp (pp + (np : Int)) ms ≤ pp + (np : Int) + (h : Int) := by
  cases ms with
  | nil => simp only [recTop]; omega
  | cons m rest =>
    unfold marksNested at hn
    simp only [Bool.and_eq_true, decide_eq_true_eq] at hn
    simp only [recTop]; omega

/-- at MK_INIT_ARRAY the extents on the stack are the recorded constants: they are the last `dims` constants of the `INT` run -/
theorem Here.mk_init (hf : flowOk md hm = true) {vm : Vm} {recs : List Rec} (hh : Here md hm bot vm recs) {i : Instr} {st : AbsSt}
    (hi : md.code[vm.ip]? = some i) (hs : hm[vm.ip]? = some (some st)) (hop : i.op = .MK_INIT_ARRAY) :
    stackInts vm i.w0 vm.sp = initExts st i.w0 := by
  obtain ⟨ds, hds, _, _, hlen, hdse⟩ := pendOkAt_MK_INIT_ARRAY hi hs hop (pend_at hf hi)
  rw [hds, hdse]
  exact stackInts_take vm _ _ _ hh.consts _ hlen

/-- CLEAR_STACK, entered with any `sp` and the pending records above `pp`: they are dropped, the machine is at height 0 -/
theorem sound_CLEAR (hf : flowOk md hm = true) (orc : Oracle) (vm vm' : Vm) (recs : List Rec) (i : Instr) (st : AbsSt)
    (hi : md.code[vm.ip]? = some i) (hs : hm[vm.ip]? = some (some st)) (hop : i.op = .CLEAR_STACK)
    (hso : StackOk vm) (hd : Desc5 recs) (hwf : WF md hm bot vm recs) (hsp : SplitH bot vm.pp recs)
    (hstep : (step md orc).run vm = .ok ((), vm')) : Sound0 md hm bot vm' (ghostNext md vm recs) := by
  have hso' := (step_keeps_stackOk md orc vm vm' hso hstep).1
  have hgn : ghostNext md vm recs = recs.dropWhile (fun r => decide (r.F ≠ vm.pp)) := by
    unfold ghostNext; simp only [hi, hop]
  obtain rfl := step_CLEAR_STACK_eq md orc vm vm' i hi hop hstep
  obtain ⟨hn, hk⟩ := frameOkAt_CLEAR_STACK hi hs hop (frame_at hf hi)
  obtain ⟨st', e1, e2, e3⟩ := hAt_spec hk
  have hmk := mAt_marksAt (pendOkAt_CLEAR_STACK hi hs hop (pend_at hf hi))
  obtain ⟨rest, edw, ht, hsuf⟩ := hsp.dropWhile
  rw [hgn, edw]
  refine ⟨hso', ht.symm, Desc5_suffix recs rest hsuf hd,
    WF_transfer rest (WF_suffix recs rest hsuf hwf) (fun _ _ _ _ _ => rfl), Or.inl ⟨⟨rfl, st', e1, ?_⟩, ?_, ?_⟩⟩
  · show vm.pp + (i.w0 : Int) = vm.pp + (fnParamsAt md (vm.ip + 1) : Int) + (st'.h : Int)
    rw [fnParamsAt_same e3, e2, hn]; unfold fnParamsAt; omega
  · show Split bot vm.pp _ (marksAt hm (vm.ip + 1)) rest
    rw [hmk]
    exact ⟨[], rest, rfl, rfl, ht⟩
  · show stackInts _ (intRun md (vm.ip + 1)).length _ = some (intRun md (vm.ip + 1))
    rw [intRun_succ md vm.ip i hi]
    simp [hop, stackInts_zero]

/-- steps inside the running activation (anything but CALL / RET / RETHROW / HALT / UNHANDLED_EXCEPTION), from a machine at its
recorded height, keep the global invariant -/
theorem sound_inside (hf : flowOk md hm = true) (orc : Oracle) (vm vm' : Vm) (recs : List Rec) (i : Instr)
    (hi : md.code[vm.ip]? = some i)
    (hnot : i.op ≠ .CALL ∧ i.op ≠ .RET ∧ i.op ≠ .RETHROW ∧ i.op ≠ .HALT ∧ i.op ≠ .UNHANDLED_EXCEPTION)
    (hso : StackOk vm) (hfp : vm.fp = topF bot recs) (hd : Desc5 recs) (hwf : WF md hm bot vm recs) (hh : Here md hm bot vm recs)
    (hfresh : i.op = .INT → AllocFresh vm)
    (hstep : (step md orc).run vm = .ok ((), vm')) : Sound0 md hm bot vm' (ghostNext md vm recs) ∨ vm'.running = 3 := by
  obtain ⟨n1, n2, n3, n4, n5⟩ := hnot
  have hah := hh.height
  obtain ⟨hrun, st, hs, hinv⟩ := hah
  have hma : marksAt hm vm.ip = st.marks := marksAt_eq hs
  have hpend := pend_at hf hi
  have hnest := pendOkAt_nested hi hs hpend
  have hso' := (step_keeps_stackOk md orc vm vm' hso hstep).1
  have hmkinit : i.op = .MK_INIT_ARRAY → stackInts vm i.w0 vm.sp = initExts st i.w0 := fun hop => hh.mk_init hf hi hs hop
  -- no word of a live record is written
  have hsplit := hh.split
  rw [hma] at hsplit
  have hwf' : WF md hm bot vm' recs := WF_transfer recs hwf (fun r hr j _ hj =>
    step_keeps_records hf orc vm vm' i st hi hs hrun hinv ⟨n2, n3⟩ hmkinit hstep j (by have := hsplit.le_top hd r hr; omega))
  have htop : ∀ r, r ∈ recs → r.F ≤ vm.sp := fun r hr => by
    have h1 := hsplit.le_top hd r hr
    have h2 := recTop_le_sp (pp := vm.pp) (np := fnParamsAt md vm.ip) hnest
    omega
  by_cases hmark : i.op = .MARK
  · -- MARK: a new pending record
    left
    obtain ⟨hm', r1, r2, r3, _, r5, r6, r7⟩ := step_MARK_regs md orc vm vm' i hi hmark hrun hstep
    obtain ⟨b1, b2⟩ := (markP_ok.mp hm').1
    obtain ⟨vmx, ex, mp⟩ := markP_spec { vm with ip := vm.ip + 1 } i.w0 hso b1 b2
    rw [hm'] at ex; cases ex
    obtain ⟨k1, k2⟩ := frameOkAt_MARK hi hs hmark (frame_at hf hi)
    obtain ⟨sr, e1, e2, e3⟩ := hAt_spec k1
    obtain ⟨m1, m2, m3⟩ := pendOkAt_MARK hi hs hmark hpend
    obtain ⟨sn, f1, f2, f3⟩ := hAt_spec k2
    have hgn : ghostNext md vm recs = { F := vm.sp + 5, pp := vm.pp, fp := vm.fp, ra := i.w0 } :: recs := by
      unfold ghostNext; simp only [hi, hmark]
    rw [hgn]
    refine ⟨hso', by rw [r2]; rfl, ⟨fun x hx => by have := htop x hx; simp only; omega, hd⟩, ⟨hfp, ⟨?_, ?_, mp.w5, ⟨sr, e1, ?_⟩, m3⟩, ?_, hwf'⟩, Or.inl ⟨?_, ?_, ?_⟩⟩
    · have := mp.w1; simp only at this ⊢
      have e : vm.sp + 5 - 4 = vm.sp + 1 := by omega
      rw [e]; exact this
    · have := mp.w4; simp only at this ⊢
      have e : vm.sp + 5 - 1 = vm.sp + 4 := by omega
      rw [e]; exact this
    · simp only
      rw [fnParamsAt_same e3, e2]; omega
    · -- what the function will find below the record when the call returns: the live records of now
      simp only
      rw [fnParamsAt_same e3, mAt_marksAt m2]
      exact hsplit
    · exact (atHeight_next hf hinv k2 r6 r5 r3 (by rw [r1]; omega)).1
    · rw [r5, mAt_marksAt m1, r3, fnParamsAt_same f3]
      obtain ⟨pend, rest, e, hF, ht⟩ := hsplit
      refine ⟨{ F := vm.sp + 5, pp := vm.pp, fp := vm.fp, ra := i.w0 } :: pend, rest, by rw [e]; rfl, ?_, ht⟩
      simp only [List.map_cons, hF, List.cons.injEq, and_true]
      omega
    · rw [r5, intRun_succ md vm.ip i hi]
      simp [hmark, stackInts_zero]
  · by_cases hclr : i.op = .CLEAR_STACK
    · exact Or.inl (sound_CLEAR hf orc vm vm' recs i st hi hs hclr hso hd hwf
        (hh.split.toH (by omega)) hstep)
    · rw [ghostNext_other hi hmark n2 n3 hclr]
      have hfp' : vm'.fp = vm.fp := step_fp_kept orc vm vm' i hi hstep hmark n2 n3 hclr
      have hin : Inside md hm vm := by
        intro j hj
        rw [hi] at hj; cases hj
        exact ⟨n1, n2, n3, n4, n5, fun hop st2 hs2 => by rw [hs] at hs2; cases hs2; exact hmkinit hop⟩
      obtain ⟨a1, a2, a3⟩ := step_atHeight hf orc vm vm' hh.height hin hstep
      rcases a3 with ⟨a3, e1, e2, e3⟩ | ⟨a3, _⟩ | a3
      · left
        refine ⟨hso', by rw [hfp', hfp], hd, hwf', Or.inl ⟨a3, ?_, ?_⟩⟩
        · rw [e2, marksNext_other hi hs hmark hclr, a1, fnParamsAt_same e1]; exact hsplit
        · rcases e3 with e3 | ⟨et, j, hj, hint⟩
          · rw [e3]; exact stackInts_zero _ _
          · -- behind an `INT`: one more constant on the stack
            rw [hi] at hj; cases hj
            obtain ⟨s2, hx, hcase⟩ := step_exec md orc vm vm' i hi hstep
            obtain ⟨_, _, _, _, _, _, _, _, _, x9, _⟩ := exec_INT md i orc hint _ _ hx
            have hvm : vm' = s2 := by
              rcases hcase with ⟨_, e⟩ | ⟨h2, _⟩
              · exact e
              · simp only at x9; omega
            rw [et, intRun_succ md vm.ip i hi, if_pos hint, hvm]
            exact int_extends_consts md i orc hint { vm with ip := vm.ip + 1 } s2 hso (hfresh hint) _ _
              (by rw [stackInts_congr vm { vm with ip := vm.ip + 1 } rfl rfl rfl]; exact hh.consts) hx
      · left
        refine ⟨hso', by rw [hfp', hfp], hd, hwf', Or.inr ⟨a3, ?_⟩⟩
        rw [a1]; exact hh.split.toH (by omega)
      · exact Or.inr a3

/-- in a state satisfying the invariant the arity of the callee is all that `CallOk` asks: `fp` is the record of the call in
preparation (or `pp` for a last call), so the number of slots between it and the function value is the site's `callArgs` -/
theorem calleeArity_callOk (hf : flowOk md hm = true) {vm : Vm} {recs : List Rec} {i : Instr} (hi : md.code[vm.ip]? = some i)
    (hop : i.op = .CALL) (hfp : vm.fp = topF bot recs) (hh : Here md hm bot vm recs) (h : CalleeArity md hm vm) : CallOk md vm := by
  intro env fip hc
  rcases h env fip hc with h0 | ⟨hmem, har⟩
  · exact Or.inl h0
  refine Or.inr ⟨hmem, ?_⟩
  obtain ⟨_, st, hs, hinv⟩ := hh.height
  have hfl := pendOkAt_CALL hi hs hop (pend_at hf hi)
  have h1 : 1 ≤ st.h := by
    rcases frameOkAt_CALL hi hs hop (frame_at hf hi) with ⟨_, h⟩ | ⟨_, h⟩ <;> omega
  have htop := hh.split.topF_eq
  rw [marksAt_eq hs, ← hfp] at htop
  unfold callArgs at har
  rw [hs] at har
  cases hms : st.marks with
  | nil =>
    simp only [hms, recTop] at har htop
    rw [har, htop, hinv]; omega
  | cons m ms' =>
    simp only [hms, recTop, pendFloor] at har htop hfl
    rw [har, htop, hinv]; omega

/-- **CALL.**  With a function value of the right arity on top (`CallOk`), the callee is entered at its recorded height 0 with
`pp = fp` (its frame base is the record the matching MARK pushed) and `sp = pp + nparams`, no call in preparation; a nil function
value raises and control is at the handler of the CALL's address.  The live records are unchanged. -/
theorem sound_CALL (hf : flowOk md hm = true) (orc : Oracle) (vm vm' : Vm) (recs : List Rec) (i : Instr)
    (hi : md.code[vm.ip]? = some i) (hop : i.op = .CALL)
    (hso : StackOk vm) (hfp : vm.fp = topF bot recs) (hd : Desc5 recs) (hwf : WF md hm bot vm recs) (hh : Here md hm bot vm recs)
    (hcall : CallOk md vm)
    (hstep : (step md orc).run vm = .ok ((), vm')) : Sound0 md hm bot vm' (ghostNext md vm recs) := by
  have hso' := (step_keeps_stackOk md orc vm vm' hso hstep).1
  have hgn := ghostNext_other (md := md) (vm := vm) (recs := recs) hi (by rw [hop]; decide) (by rw [hop]; decide) (by rw [hop]; decide) (by rw [hop]; decide)
  rw [hgn]
  obtain ⟨s2, he, hcase⟩ := step_exec md orc vm vm' i hi hstep
  obtain ⟨a, env, fip, hr1, hr2, hcp⟩ := exec_CALL md i orc hop _ _ he
  obtain ⟨b1, ea, _⟩ := rdAddr_val hr1
  have hobj := getFunc_val hr2
  simp only at b1 ea hobj
  have hcallee : calleeOf vm = some (env, fip) := by
    unfold calleeOf
    rw [if_neg b1, ← ea, hobj]
  have hrun : vm.running = 1 := hh.height.1
  unfold callP at hcp
  by_cases h0 : fip = 0
  · -- nil function value: nil_pointer is raised, the handler of this address is entered
    simp only [h0, beq_self_eq_true, if_true] at hcp
    subst hcp
    rcases hcase with ⟨hne, _⟩ | ⟨_, hdl, hhd, rfl⟩
    · exact absurd rfl hne
    · have hhd' : excHandler md.exctab md.excCount vm.ip = some hdl := hhd
      obtain ⟨k1, k2⟩ := handler_entry hf hhd'
      exact ⟨hso', hfp, hd, WF_transfer recs hwf (fun _ _ _ _ _ => rfl), Or.inr ⟨⟨rfl, k1, k2⟩, hh.split.toH (by omega)⟩⟩
  · have hne0 : (fip == 0) = false := by simpa using h0
    simp only [hne0, Bool.false_eq_true, if_false] at hcp
    subst hcp
    rcases hcall env fip hcallee with h00 | ⟨hmem, harity⟩
    · exact absurd h00 h0
    rcases hcase with ⟨_, rfl⟩ | ⟨h2, _⟩
    · obtain ⟨st0, hs0, hh0, hm0, hr0⟩ := flowOk_starts hf hmem
      refine ⟨hso', hfp, hd, WF_transfer recs hwf (fun _ _ _ _ _ => rfl), Or.inl ⟨⟨hrun, st0, hs0, ?_⟩, ?_, ?_⟩⟩
      · show vm.sp - 1 = vm.fp + (fnParamsAt md fip : Int) + (st0.h : Int)
        rw [hh0]; omega
      · show Split bot vm.fp _ (marksAt hm fip) recs
        rw [marksAt_eq hs0, hm0]
        exact ⟨[], recs, rfl, rfl, hfp.symm⟩
      · show stackInts _ (intRun md fip).length _ = some (intRun md fip)
        rw [hr0]; exact stackInts_zero _ _
    · exact absurd h2 (by show vm.running ≠ 2; omega)

/-- RET / RETHROW through an intact innermost record `r` (`retP`, then the collector's turn): the registers are restored from it, `sp`
is at the slot of the result; the one slot written is the lowest word of `r`, so the records below stay well-formed -/
theorem ret_pops_record {vm v1 v2 : Vm} {r : Rec} {rs : List Rec} (hso : StackOk vm) (hfp : vm.fp = r.F) (hd : Desc5 (r :: rs))
    (hwf : WF md hm bot vm (r :: rs)) (hret : retP { vm with ip := vm.ip + 1 } = .ok v1) (hgc : gcRunPure v1 = .ok v2) :
    v2.sp = r.F - 4 ∧ v2.fp = r.fp ∧ v2.pp = r.pp ∧ v2.ip = r.ra ∧ v2.running = vm.running ∧ WF md hm bot v2 rs := by
  obtain ⟨_, ⟨d1, d2, d3, _⟩, _, hwf'⟩ := hwf
  obtain ⟨b1, b2, b3, b4⟩ := (retP_ok.mp hret).1
  obtain ⟨vx, ex, rp⟩ := retP_spec { vm with ip := vm.ip + 1 } hso b1 b2 b3 b4
  rw [hret] at ex; cases ex
  obtain ⟨g1, g2, g3, _, g5, g6, _, g8⟩ := gcRunPure_regs hgc
  have sl : ∀ j, slot ({ vm with ip := vm.ip + 1 } : Vm) j = slot vm j := fun _ => rfl
  have e1 := rp.sp; have e2 := rp.fp; have e3 := rp.pp; have e4 := rp.ip; have k := rp.other
  simp only [sl] at e1 e2 e3 e4 k
  rw [hfp] at e1 e2 e3 e4 k
  refine ⟨by rw [g1, e1], by rw [g2, e2, d2]; rfl, by rw [g3, e3, d1]; rfl, by rw [g5, e4, d3]; rfl,
    by rw [g6, (retP_ok.mp hret).2], WF_transfer rs hwf' (fun x hx j hj _ => ?_)⟩
  rw [slot_of_stack_eq g8]
  exact k j (by have := hd.1 x hx; omega)

/-- **RET.**  Through the innermost live record the machine returns to the MARK's return address at ITS recorded height — the frame is
popped and exactly the result is pushed: `sp = (sp before the MARK) + 1` —, with `fp` and `pp` of the caller restored, and the
caller finds the records of its own calls in preparation as it left them. -/
theorem sound_RET (hf : flowOk md hm = true) (orc : Oracle) (vm vm' : Vm) (recs : List Rec) (i : Instr)
    (hi : md.code[vm.ip]? = some i) (hop : i.op = .RET)
    (hso : StackOk vm) (hfp : vm.fp = topF bot recs) (hd : Desc5 recs) (hwf : WF md hm bot vm recs) (hrun : vm.running = 1)
    (hne : recs ≠ [])
    (hstep : (step md orc).run vm = .ok ((), vm')) : Sound0 md hm bot vm' (ghostNext md vm recs) ∧
      ∃ r rs, recs = r :: rs ∧ ghostNext md vm recs = rs ∧ vm'.ip = r.ra ∧ vm'.sp = r.F - 4 ∧ vm'.fp = r.fp ∧ vm'.pp = r.pp ∧ vm'.running = 1 := by
  have hso' := (step_keeps_stackOk md orc vm vm' hso hstep).1
  cases recs with
  | nil => exact absurd rfl hne
  | cons r rs =>
    have hgn : ghostNext md vm (r :: rs) = rs := by unfold ghostNext; simp only [hi, hop, List.tail_cons]
    obtain ⟨s2, he, hcase⟩ := step_exec md orc vm vm' i hi hstep
    obtain ⟨v1, hret, hgc⟩ := exec_RET md i orc hop _ _ he
    obtain ⟨f2, f3, f4, f1, f5, hwf'⟩ := ret_pops_record hso hfp hd hwf hret hgc
    obtain ⟨w1, ⟨_, _, _, ⟨st, hst, hht⟩, hir⟩, wsp, _⟩ := hwf
    rcases hcase with ⟨_, rfl⟩ | ⟨h2, _⟩
    · rw [hgn]
      refine ⟨⟨hso', by rw [f3]; exact w1, hd.2, hwf', Or.inl ⟨⟨by omega, st, by rw [f1]; exact hst, ?_⟩, ?_, ?_⟩⟩,
        r, rs, rfl, rfl, f1, f2, f3, f4, by omega⟩
      · rw [f2, f4, f1]; exact hht
      · rw [f1, f4]; exact wsp
      · rw [f1, hir]; exact stackInts_zero _ _
    · omega

/-- **RETHROW.**  The frame (complete or only MARKed) is popped like by RET and the exception is raised again: control is at the
handler the exception table assigns to the address before the record's return address, `fp`/`pp` restored from the record. -/
theorem sound_RETHROW (hf : flowOk md hm = true) (orc : Oracle) (vm vm' : Vm) (recs : List Rec) (i : Instr)
    (hi : md.code[vm.ip]? = some i) (hop : i.op = .RETHROW)
    (hso : StackOk vm) (hfp : vm.fp = topF bot recs) (hd : Desc5 recs) (hwf : WF md hm bot vm recs)
    (hne : recs ≠ [])
    (hstep : (step md orc).run vm = .ok ((), vm')) : Sound0 md hm bot vm' (ghostNext md vm recs) := by
  have hso' := (step_keeps_stackOk md orc vm vm' hso hstep).1
  cases recs with
  | nil => exact absurd rfl hne
  | cons r rs =>
    have hgn : ghostNext md vm (r :: rs) = rs := by unfold ghostNext; simp only [hi, hop, List.tail_cons]
    obtain ⟨s2, he, hcase⟩ := step_exec md orc vm vm' i hi hstep
    obtain ⟨v1, v2, hret, hgc, rfl⟩ := exec_RETHROW md i orc hop _ _ he
    obtain ⟨_, f3, f4, _, _, hwf'⟩ := ret_pops_record hso hfp hd hwf hret hgc
    obtain ⟨w1, _, wsp, _⟩ := hwf
    rcases hcase with ⟨hn2, _⟩ | ⟨_, hdl, hhd, rfl⟩
    · exact absurd rfl hn2
    · obtain ⟨k1, k2⟩ := handler_entry hf hhd
      rw [hgn]
      refine ⟨hso', by rw [← w1]; exact f3, hd.2, WF_transfer rs hwf' (fun _ _ _ _ _ => rfl), Or.inr ⟨⟨rfl, k1, k2⟩, ?_⟩⟩
      show SplitH bot v2.pp rs
      rw [f4]
      exact wsp.toH (by omega)

theorem Sound0.running {vm : Vm} {recs : List Rec} (h : Sound0 md hm bot vm recs) : vm.running = 1 :=
  h.2.2.2.2.elim (fun h => h.height.1) (fun h => h.1.1)

end

/-- **the global invariant**: `Sound0` (registers, frame records, heights) and the heap's bookkeeping `FreeInv` -/
def Sound (md : Module) (hm : HMap) (bot : Int) (vm : Vm) (recs : List Rec) : Prop :=
  Sound0 md hm bot vm recs ∧ FreeInv vm.gc

/-- the side conditions of one step that the verifier cannot establish: a CALL finds a function value of the arity of its call site
(`CalleeArity`: type soundness, see Props/C07); and, as a matter of where the considered run starts, a RET / RETHROW finds a live
record.  (That the allocator hands an `INT` a free cell is not a condition: the heap's bookkeeping invariant holds along every
execution, Props/C09 `vm_heap_bookkeeping_invariant`.) -/
def StepOk (md : Module) (hm : HMap) (vm : Vm) (recs : List Rec) : Prop :=
  ∀ i, md.code[vm.ip]? = some i →
     (i.op = .CALL → CalleeArity md hm vm) ∧
     ((i.op = .RET ∨ i.op = .RETHROW) → recs ≠ [])

/-- **One step of a verified module keeps the global invariant**, under the side conditions `StepOk` -/
theorem step_sound {md : Module} {hm : HMap} {bot : Int} (hf : flowOk md hm = true) (orc : Oracle) (vm vm' : Vm) (recs : List Rec)
    (hs : Sound md hm bot vm recs) (hstep : (step md orc).run vm = .ok ((), vm')) (hok : StepOk md hm vm recs) :
    Sound md hm bot vm' (ghostNext md vm recs) ∨ vm'.running = 3 ∨ vm'.running = 0 := by
  obtain ⟨hs0, hfree⟩ := hs
  have hrun := hs0.running
  obtain ⟨hso, hfp, hd, hwf, hcase⟩ := hs0
  obtain ⟨i, hi⟩ := step_fetch hstep
  obtain ⟨c1, c2⟩ := hok i hi
  -- the heap's bookkeeping is kept by every step; what is left is `Sound0`
  suffices h : Sound0 md hm bot vm' (ghostNext md vm recs) ∨ vm'.running = 3 ∨ vm'.running = 0 from
    h.imp_left fun h => ⟨h, step_keeps_freeInv md orc vm vm' hfree hstep⟩
  by_cases h2 : i.op = .RET
  · exact Or.inl (sound_RET hf orc vm vm' recs i hi h2 hso hfp hd hwf hrun (c2 (Or.inl h2)) hstep).1
  by_cases h3 : i.op = .RETHROW
  · exact Or.inl (sound_RETHROW hf orc vm vm' recs i hi h3 hso hfp hd hwf (c2 (Or.inr h3)) hstep)
  by_cases h4 : i.op = .HALT
  · right; right
    obtain ⟨s2, he, hc⟩ := step_exec md orc vm vm' i hi hstep
    have := exec_HALT md i orc h4 _ _ he
    rcases hc with ⟨_, e⟩ | ⟨hr2, _⟩
    · rw [e, this]
    · rw [this] at hr2; simp at hr2
  by_cases h5 : i.op = .UNHANDLED_EXCEPTION
  · right; left
    obtain ⟨s2, he, hc⟩ := step_exec md orc vm vm' i hi hstep
    have := exec_UNHANDLED md i orc h5 _ _ he
    rcases hc with ⟨_, e⟩ | ⟨hr2, _⟩
    · rw [e, this]
    · omega
  rcases hcase with hh | ⟨hah, hsph⟩
  · -- at the recorded height
    by_cases h1 : i.op = .CALL
    · exact Or.inl (sound_CALL hf orc vm vm' recs i hi h1 hso hfp hd hwf hh (calleeArity_callOk hf hi h1 hfp hh (c1 h1)) hstep)
    · exact (sound_inside hf orc vm vm' recs i hi ⟨h1, h2, h3, h4, h5⟩ hso hfp hd hwf hh (fun _ => hfree.alloc_fresh) hstep).imp_right Or.inl
  · -- at a handler entry: CLEAR_STACK or LABEL (RETHROW / UNHANDLED_EXCEPTION are done)
    obtain ⟨st, hst⟩ := hah.2.2
    rcases atHandler_op hah hi with h | h | h | h
    · exact Or.inl (sound_CLEAR hf orc vm vm' recs i st hi hst h hso hd hwf hsph hstep)
    · exact absurd h h3
    · exact absurd h h5
    · left
      obtain ⟨e, hah'⟩ := step_LABEL_handler hf orc vm vm' i hi h hah hstep
      rw [ghostNext_other hi (by rw [h]; decide) (by rw [h]; decide) (by rw [h]; decide) (by rw [h]; decide)]
      have hso' := (step_keeps_stackOk md orc vm vm' hso hstep).1
      subst e
      exact ⟨hso', hfp, hd, WF_transfer recs hwf (fun _ _ _ _ _ => rfl), Or.inr ⟨hah', hsph⟩⟩

/-- `n` steps of M-VM from `(vm, recs)` to `(vm', recs')` — each from a running machine, each with some results of its external
calls, each satisfying the side conditions `StepOk` —, the list of live records updated by `ghostNext` -/
inductive RunsG (md : Module) (hm : HMap) : Nat → Vm → List Rec → Vm → List Rec → Prop
  | zero (vm : Vm) (recs : List Rec) : RunsG md hm 0 vm recs vm recs
  | succ {n : Nat} {vm v1 v2 : Vm} {recs recs2 : List Rec} (orc : Oracle) : vm.running = 1 →
      (step md orc).run vm = .ok ((), v1) → StepOk md hm vm recs → RunsG md hm n v1 (ghostNext md vm recs) v2 recs2 →
      RunsG md hm (n + 1) vm recs v2 recs2

/-- **whole executions keep the global invariant** (calls, returns, exceptions included) -/
theorem runsG_sound {md : Module} {hm : HMap} {bot : Int} (hf : flowOk md hm = true) : ∀ (n : Nat) (vm vm' : Vm) (recs recs' : List Rec),
    Sound md hm bot vm recs → RunsG md hm n vm recs vm' recs' →
    Sound md hm bot vm' recs' ∨ vm'.running = 3 ∨ vm'.running = 0 := by
  intro n
  induction n with
  | zero => intro vm vm' recs recs' hs hr; cases hr; exact Or.inl hs
  | succ n ih =>
    intro vm vm' recs recs' hs hr
    cases hr with
    | succ orc hrun hstep hok hrest =>
      rename_i v1
      rcases step_sound hf orc vm v1 recs hs hstep hok with h | h | h
      · exact ih _ _ _ _ h hrest
      · cases hrest with
        | zero => exact Or.inr (Or.inl h)
        | succ orc' hrun' _ _ _ => omega
      · cases hrest with
        | zero => exact Or.inr (Or.inr h)
        | succ orc' hrun' _ _ _ => omega

/-- the machine `nev_execute` starts on the first time (empty stack, `sp = fp = pp = −1`, control at address 0) satisfies the global
invariant with no live record -/
theorem sound0_initial {md : Module} {hm : HMap} (hf : flowOk md hm = true) (mem stack gcMode : Nat) :
    Sound0 md hm (-1) (beginExecute md (Vm.new mem stack gcMode)) [] := by
  obtain ⟨st, hs, hz, hm0⟩ := flowOk_entry hf
  have e : beginExecute md (Vm.new mem stack gcMode) = { Vm.new mem stack gcMode with ip := 0, initialized := true, running := 1 } := by
    unfold beginExecute; simp [Vm.new]
  rw [e]
  refine ⟨?_, rfl, trivial, trivial, Or.inl ⟨⟨rfl, st, hs, ?_⟩, ?_, ?_⟩⟩
  · unfold StackOk Vm.new; simp
  · show (-1 : Int) = -1 + (fnParamsAt md 0 : Int) + (st.h : Int)
    unfold fnParamsAt; omega
  · show Split (-1) (-1) _ (marksAt hm 0) []
    rw [marksAt_eq hs, hm0]
    exact ⟨[], [], rfl, rfl, rfl⟩
  · exact stackInts_zero _ _

/-- … and the whole invariant, on a heap of at least one cell -/
theorem sound_initial {md : Module} {hm : HMap} (hf : flowOk md hm = true) (mem stack gcMode : Nat) (hmem : 1 ≤ mem) :
    Sound md hm (-1) (beginExecute md (Vm.new mem stack gcMode)) [] := by
  refine ⟨sound0_initial hf mem stack gcMode, ?_⟩
  have : (beginExecute md (Vm.new mem stack gcMode)).gc = Gc.new mem := by unfold beginExecute Vm.new; simp
  rw [this]; exact freeInv_new mem hmem

/-! ### the side conditions as a decidable check on concrete runs -/

theorem stepOkB_sound {md : Module} {hm : HMap} {vm vm' : Vm} {recs : List Rec} (h : stepOkB md hm vm vm' recs = true) :
    StepOk md hm vm recs := by
  unfold stepOkB at h
  simp only [Bool.and_eq_true] at h
  obtain ⟨_, h2⟩ := h
  intro i hi
  rw [hi] at h2
  simp only [Bool.and_eq_true, Bool.or_eq_true, bne_iff_ne, ne_eq, Bool.not_eq_true', beq_iff_eq] at h2
  obtain ⟨⟨⟨c1, c2⟩, c3⟩, _⟩ := h2
  refine ⟨fun hop => ?_, fun hop => ?_⟩
  · rcases c1 with c1 | c1
    · exact absurd hop c1
    · intro env fip hc
      unfold callOkB at c1
      rw [hc] at c1
      simp only [Bool.or_eq_true, beq_iff_eq, Bool.and_eq_true, decide_eq_true_eq] at c1
      exact c1
  · rcases c2 with c2 | c2
    · rcases hop with hop | hop
      · simp [hop] at c2
      · simp [hop] at c2
    · intro he; rw [he] at c2; simp at c2

/-- run `n` steps, following the live records and checking `stepOkB` at every step; `none` if one fails -/
def runGB (md : Module) (hm : HMap) (orc : Nat → Oracle) : Nat → Vm → List Rec → Option (Vm × List Rec)
  | 0, vm, recs => some (vm, recs)
  | n+1, vm, recs =>
    if vm.running ≠ 1 then some (vm, recs) else
    match (step md (orc n)).run vm with
    | .ok (_, v1) => if stepOkB md hm vm v1 recs then runGB md hm orc n v1 (ghostNext md vm recs) else none
    | .error _ => none

theorem runGB_runsG (md : Module) (hm : HMap) (orc : Nat → Oracle) : ∀ (n : Nat) (vm : Vm) (recs : List Rec) (vm' : Vm) (recs' : List Rec),
    runGB md hm orc n vm recs = some (vm', recs') → ∃ k, RunsG md hm k vm recs vm' recs' := by
  intro n
  induction n with
  | zero => intro vm recs vm' recs' h; unfold runGB at h; cases h; exact ⟨0, .zero _ _⟩
  | succ n ih =>
    intro vm recs vm' recs' h
    unfold runGB at h
    split at h
    · cases h; exact ⟨0, .zero _ _⟩
    · rename_i hr
      split at h
      · rename_i u v1 hs
        split at h
        · rename_i hb
          obtain ⟨k, hk⟩ := ih _ _ _ _ h
          cases u
          exact ⟨k + 1, .succ (orc n) (by omega) hs (stepOkB_sound hb) hk⟩
        · cases h
      · cases h

end Never.Ver
