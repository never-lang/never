import NeverModel.Lemmas.Mark
set_option linter.unusedSimpArgs false
set_option linter.unusedVariables false
/-! soundness of marking: whatever a call marks has an object and is reachable from the call's target -/
namespace Never
open Mem

def Edge (m : Mem) (a b : Nat) : Prop := ∃ o, objAt m a = some o ∧ b ∈ o.refs

inductive Path (m : Mem) : Nat → Nat → Prop
  | refl (a : Nat) : Path m a a
  | tail {a b c : Nat} : Path m a b → Edge m b c → Path m a c

theorem Path.head {m : Mem} {a b c : Nat} (e : Edge m a b) (p : Path m b c) : Path m a c := by
  induction p with
  | refl => exact Path.tail (Path.refl _) e
  | tail _ e' ih => exact Path.tail ih e'

theorem Path.congr {m m' : Mem} (h : ∀ x, objAt m' x = objAt m x) {a b : Nat} (p : Path m a b) : Path m' a b := by
  induction p with
  | refl => exact Path.refl _
  | tail _ e ih =>
    obtain ⟨o, ho, hr⟩ := e
    exact Path.tail ih ⟨o, by rw [h]; exact ho, hr⟩

/-- every cell newly marked between `m` and `m'` is a live-looking cell reachable from one of `xs` -/
def NewFrom (m m' : Mem) (xs : List Nat) : Prop :=
  ∀ b, marked m' b = true → marked m b = false →
    b ≠ 0 ∧ (objAt m b).isSome = true ∧ ∃ x ∈ xs, Path m x b

theorem NewFrom.refl (m : Mem) (xs : List Nat) : NewFrom m m xs := fun b h1 h0 => by simp [h0] at h1

theorem NewFrom.mono_list {m m' : Mem} {xs ys : List Nat} (h : NewFrom m m' xs) (hs : ∀ x ∈ xs, x ∈ ys) :
    NewFrom m m' ys := fun b h1 h0 =>
  let ⟨a, o, x, hx, p⟩ := h b h1 h0
  ⟨a, o, x, hs x hx, p⟩

theorem NewFrom.trans {a b c : Mem} {xs : List Nat} (hab : Mono a b)
    (h1 : NewFrom a b xs) (h2 : NewFrom b c xs) : NewFrom a c xs := by
  intro x hx hx0
  by_cases hb : marked b x = true
  · exact h1 x hb hx0
  · obtain ⟨n0, ho, y, hy, p⟩ := h2 x hx (by simpa using hb)
    exact ⟨n0, by rw [← hab.obj]; exact ho, y, hy, p.congr (fun z => (hab.obj z).symm)⟩

/-- mark `a` (which holds `o`), then a run that marks only things reachable from `o.refs` -/
theorem step_sound {m m' : Mem} {a : Nat} {o : Obj} (ha : a ≠ 0) (ho : objAt m a = some o)
    (hn : NewFrom (setMark m a true) m' o.refs) : NewFrom m m' [a] := by
  intro b hb hb0
  by_cases hab : a = b
  · subst hab
    exact ⟨ha, by simp [ho], a, by simp, Path.refl _⟩
  · have : marked (setMark m a true) b = false := by simp [marked_setMark, hab, hb0]
    obtain ⟨n0, hobj, x, hx, p⟩ := hn b hb this
    refine ⟨n0, by simpa using hobj, a, by simp, ?_⟩
    exact Path.head ⟨o, ho, hx⟩ (p.congr (fun z => (objAt_setMark m a z true).symm))

theorem Marks.sound {m m' : Mem} {xs : List Nat} (h : Marks m xs m') : NewFrom m m' xs := by
  induction h with
  | nil => exact NewFrom.refl _ _
  | skip _ _ ih => exact ih.mono_list (fun x hx => List.mem_cons_of_mem _ hx)
  | @visit m m1 m' a o xs ha ho h1 _ ih1 ih2 =>
    exact NewFrom.trans ((Mono.setMark m a).trans h1.post.1.mono) ((step_sound ha ho ih1).mono_list (by simp))
      (ih2.mono_list (fun x hx => List.mem_cons_of_mem _ hx))

end Never
