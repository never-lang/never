import NeverModel.Lemmas.Mark
set_option linter.unusedSimpArgs false
set_option linter.unusedVariables false
/-! termination / definedness of the C marking recursion on a well-kinded heap -/
namespace Never
open Mem

/-- every allocated object's references are well-kinded -/
def WK (m : Mem) : Prop := ∀ a o, objAt m a = some o → m.okObj o = true

theorem okRef_congr {m m' : Mem} (h : ∀ x, objAt m' x = objAt m x) : m'.okRef = m.okRef := by
  funext r; simp [Mem.okRef, h]

theorem okObj_congr {m m' : Mem} (h : ∀ x, objAt m' x = objAt m x) (o : Obj) : m'.okObj o = m.okObj o := by
  cases o <;> simp [Mem.okObj, okRef_congr h, Mem.okStr, Mem.okVec, Mem.okArr, h]

theorem WK.mono {m m' : Mem} (w : WK m) (h : Mono m m') : WK m' := by
  intro a o ho
  rw [okObj_congr h.obj]
  exact w a o (by rw [← h.obj]; exact ho)

def isContainer : Option Obj → Bool
  | some (.vec _) => true
  | some (.arr _ _) => true
  | _ => false

/-- number of unmarked containers: bounds the C recursion depth -/
def U (m : Mem) : Nat := (List.range m.size).countP fun a => isContainer (objAt m a) && !marked m a

theorem countP_lt_of {α} (p q : α → Bool) (l : List α) (a : α)
    (hpq : ∀ x ∈ l, p x = true → q x = true) (ha : a ∈ l) (hq : q a = true) (hp : p a = false) :
    l.countP p < l.countP q := by
  induction l with
  | nil => cases ha
  | cons x xs ih =>
    have hxs : ∀ y ∈ xs, p y = true → q y = true := fun y hy => hpq y (List.mem_cons_of_mem _ hy)
    have hle : xs.countP p ≤ xs.countP q := List.countP_mono_left hxs
    rcases List.mem_cons.mp ha with rfl | ha'
    · simp [List.countP_cons, hq, hp]; omega
    · have := ih hxs ha'
      by_cases hpx : p x = true
      · have := hpq x (List.mem_cons_self) hpx
        simp [List.countP_cons, hpx, this]; omega
      · by_cases hqx : q x = true <;> simp [List.countP_cons, hpx, hqx] <;> omega

theorem U_mono {m m' : Mem} (h : Mono m m') : U m' ≤ U m := by
  unfold U
  rw [h.size]
  apply List.countP_mono_left
  intro x _ hx
  simp only [Bool.and_eq_true, Bool.not_eq_true'] at hx ⊢
  rw [h.obj] at hx
  refine ⟨hx.1, ?_⟩
  cases hm : marked m x
  · rfl
  · have := h.marks x hm; rw [this] at hx; exact absurd hx.2 (by simp)

theorem U_setMark_lt {m : Mem} {a : Nat} (hlt : a < m.size) (hc : isContainer (objAt m a) = true)
    (hm : marked m a = false) : U (setMark m a true) < U m := by
  unfold U
  rw [size_setMark]
  apply countP_lt_of _ _ _ a
  · intro x _ hx
    simp only [Bool.and_eq_true, Bool.not_eq_true', objAt_setMark, marked_setMark] at hx ⊢
    refine ⟨hx.1, ?_⟩
    have := hx.2
    split at this
    · cases this
    · exact this
  · exact List.mem_range.mpr hlt
  · simp [hc, hm]
  · simp [marked_setMark, hlt]

def okTarget (m : Mem) (a : Nat) : Prop := a = 0 ∨ a < m.size

theorem okRef_target {m : Mem} {r : Nat} (h : m.okRef r = true) : okTarget m r := by
  unfold Mem.okRef at h
  simp only [Bool.or_eq_true, decide_eq_true_eq] at h
  rcases h with h | h
  · exact Or.inl h
  · right
    cases ho : objAt m r with
    | none => simp [ho] at h
    | some o => exact objAt_some_lt ho

theorem markL_total_of (f : Nat)
    (hm : ∀ m a, WK m → okTarget m a → 2 * U m + 3 ≤ f → (mark f m a).isSome = true) :
    ∀ xs m, WK m → (∀ x ∈ xs, okTarget m x) → 2 * U m + 3 ≤ f → (markL f m xs).isSome = true := by
  intro xs
  induction xs with
  | nil => intro m _ _ _; rw [markL]; rfl
  | cons x xs ih =>
    intro m w hx hf
    rw [markL]
    have h1 := hm m x w (hx x (by simp)) hf
    cases hmk : mark f m x with
    | none => simp [hmk] at h1
    | some m1 =>
      have mono := ((mark_marks f).1 _ _ _ hmk).post.1.mono
      have hu := U_mono mono
      simp only
      apply ih m1 (w.mono mono)
      · intro y hy
        rcases hx y (List.mem_cons_of_mem _ hy) with h | h
        · exact Or.inl h
        · exact Or.inr (by rw [mono.size]; exact h)
      · omega

/-- what `gc_mark_vec`/`gc_mark_arr` need of their argument -/
def kindOk : CKind → Option Obj → Bool
  | .vec, some (.vec _) => true
  | .arr, some (.arr _ _) => true
  | _, _ => false

def okCTarget (k : CKind) (m : Mem) (a : Nat) : Prop :=
  a = 0 ∨ (a < m.size ∧ (marked m a = true ∨ kindOk k (objAt m a) = true))

theorem okCTarget_of {k : CKind} {m : Mem} {p : Nat} {q : Option Obj → Bool} (hq : ∀ oo, q oo = true → kindOk k oo = true)
    (h : (decide (p = 0) || q (objAt m p)) = true) : okCTarget k m p := by
  simp only [Bool.or_eq_true, decide_eq_true_eq] at h
  rcases h with h | h
  · exact Or.inl h
  · have hk := hq _ h
    cases ho : objAt m p with
    | none => rw [ho] at hk; cases k <;> cases hk
    | some o => exact Or.inr ⟨objAt_some_lt ho, Or.inr hk⟩

theorem kindOk_cases : ∀ {k : CKind} {oo : Option Obj}, kindOk k oo = true →
    (k = .vec ∧ ∃ fs, oo = some (.vec fs)) ∨ (k = .arr ∧ ∃ dv es, oo = some (.arr dv es))
  | .vec, some (.vec fs), _ => Or.inl ⟨rfl, fs, rfl⟩
  | .arr, some (.arr dv es), _ => Or.inr ⟨rfl, dv, es, rfl⟩

theorem isStr_cases : ∀ {oo : Option Obj}, isStr oo = true → ∃ s, oo = some (.str s)
  | some (.str s), _ => ⟨s, rfl⟩

theorem kindOk_of_isVec (oo : Option Obj) (h : isVec oo = true) : kindOk .vec oo = true := by
  rcases oo with _ | o
  · exact h
  · cases o <;> exact h

theorem kindOk_of_isArr (oo : Option Obj) (h : isArr oo = true) : kindOk .arr oo = true := by
  rcases oo with _ | o
  · exact h
  · cases o <;> exact h

theorem okCTarget_setMark {k : CKind} {m : Mem} {a p : Nat} (h : okCTarget k m p) :
    okCTarget k (setMark m a true) p := by
  rcases h with h | ⟨hlt, h⟩
  · exact Or.inl h
  · right
    refine ⟨by simpa using hlt, ?_⟩
    rcases h with h | h
    · left; simp only [marked_setMark]; split <;> simp [h]
    · right; simpa using h

theorem WK.setMark {m : Mem} (w : WK m) (a : Nat) : WK (setMark m a true) := w.mono (Mono.setMark m a)

theorem okTargets_setMark {m : Mem} {a : Nat} {fs : List Nat} (hok : fs.all m.okRef = true) :
    ∀ x ∈ fs, okTarget (setMark m a true) x := by
  intro x hx
  rcases okRef_target (List.all_eq_true.mp hok x hx) with h | h
  · exact Or.inl h
  · exact Or.inr (by simpa using h)

/-- `gc_mark` on a string (or nil) needs one level of recursion -/
theorem mark_str_isSome {f : Nat} {m : Mem} {p : Nat} (h : m.okStr p = true) : (mark (f + 1) m p).isSome = true := by
  rw [mark]
  split
  · rfl
  · rename_i hp
    have hs : isStr (objAt m p) = true := by simpa [Mem.okStr, hp] using h
    unfold objAt at hs
    split at hs
    · rename_i c hc
      obtain ⟨s, hcs⟩ := isStr_cases hs
      simp only [hc, hcs]
      rfl
    · cases hs

theorem mark_total_all (f : Nat) :
    (∀ m a, WK m → okTarget m a → 2 * U m + 3 ≤ f → (mark f m a).isSome = true) ∧
    (∀ k m a, WK m → okCTarget k m a → 2 * U m + 2 ≤ f → (markC f k m a).isSome = true) := by
  induction f with
  | zero =>
    constructor
    · intro m a _ _ h; omega
    · intro k m a _ _ h; omega
  | succ f ih =>
    obtain ⟨ihm, ihc⟩ := ih
    have ihl := markL_total_of f ihm
    constructor
    · intro m a w ht hf
      rw [mark]
      split
      · rfl
      · rename_i ha
        have hlt : a < m.size := ht.resolve_left ha
        obtain ⟨c, hc⟩ := getElem?_of_lt hlt
        have hobj := getElem?_objAt hc
        simp only [hc]
        have h0 : 2 * U m + 2 ≤ f := Nat.le_of_succ_le_succ hf
        have h1 : 2 * U (setMark m a true) + 2 ≤ f := by
          have := U_mono (Mono.setMark m a)
          omega
        split
        · rfl
        · rename_i p hs
          have hok : m.okStr p = true := w a (.strRef p) (by rw [hobj, hs])
          obtain ⟨f', rfl⟩ : ∃ f', f = f' + 1 := ⟨f - 1, by omega⟩
          exact mark_str_isSome (by simpa [Mem.okStr] using hok)
        · rename_i fs hs
          exact ihc _ _ _ w (Or.inr ⟨hlt, Or.inr (by rw [hobj, hs]; rfl)⟩) h0
        · rename_i p hs
          have hok : m.okVec p = true := w a (.vecRef p) (by rw [hobj, hs])
          exact ihc _ _ _ (w.setMark a) (okCTarget_setMark (okCTarget_of kindOk_of_isVec hok)) h1
        · rename_i dv es hs
          exact ihc _ _ _ w (Or.inr ⟨hlt, Or.inr (by rw [hobj, hs]; rfl)⟩) h0
        · rename_i p hs
          have hok : m.okArr p = true := w a (.arrRef p) (by rw [hobj, hs])
          exact ihc _ _ _ (w.setMark a) (okCTarget_setMark (okCTarget_of kindOk_of_isArr hok)) h1
        · rename_i env ip hs
          have hok : m.okVec env = true := w a (.func env ip) (by rw [hobj, hs])
          exact ihc _ _ _ (w.setMark a) (okCTarget_setMark (okCTarget_of kindOk_of_isVec hok)) h1
        · rfl
    · intro k m a w ht hf
      rw [markC]
      split
      · rfl
      · rename_i ha
        obtain ⟨hlt, hk⟩ := ht.resolve_left ha
        obtain ⟨c, hc⟩ := getElem?_of_lt hlt
        have hobj := getElem?_objAt hc
        have hmk := getElem?_marked hc
        simp only [hc]
        split
        · rfl
        · rename_i hnm
          have hunm : marked m a = false := by rw [hmk]; simpa using hnm
          have hk' := hk.resolve_left (by simp [hunm])
          have wS := w.setMark a
          rw [hobj] at hk'
          rcases kindOk_cases hk' with ⟨rfl, fs, hs⟩ | ⟨rfl, dv, es, hs⟩
          · simp only [hs]
            have hlt' := U_setMark_lt hlt (by simp [hobj, hs, isContainer]) hunm
            exact ihl _ _ wS (okTargets_setMark (w a (.vec fs) (by rw [hobj, hs]))) (by omega)
          · simp only [hs]
            have hlt' := U_setMark_lt hlt (by simp [hobj, hs, isContainer]) hunm
            exact ihl _ _ wS (okTargets_setMark (w a (.arr dv es) (by rw [hobj, hs]))) (by omega)

theorem U_le_size (m : Mem) : U m ≤ m.size := by
  unfold U
  exact Nat.le_trans List.countP_le_length (by simp)

end Never
