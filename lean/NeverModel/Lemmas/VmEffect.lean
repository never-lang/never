import NeverModel.Lemmas.VmRel
set_option linter.unusedSimpArgs false
/-! `KeepsSp` (`sp`, `fp`, `pp` and the stack size untouched) and the stack-pointer effect of the arithmetic handler families of M-VM -/
namespace Never.Vm
open Never Never.Num

/-- a computation that leaves `sp`, `fp`, `pp` and the stack size alone (it may change the heap, the stack
contents, `ip`, `running`/`exception`, the output) -/
def KeepsSp {α} (f : M α) : Prop :=
  ∀ vm a vm', f.run vm = .ok (a, vm') → vm'.sp = vm.sp ∧ vm'.fp = vm.fp ∧ vm'.pp = vm.pp ∧ vm'.stackSize = vm.stackSize

def SameRegs (vm vm' : Vm) : Prop := vm'.sp = vm.sp ∧ vm'.fp = vm.fp ∧ vm'.pp = vm.pp ∧ vm'.stackSize = vm.stackSize

instance : Frame SameRegs where
  refl _ := ⟨rfl, rfl, rfl, rfl⟩
  trans h1 h2 := ⟨h2.1.trans h1.1, h2.2.1.trans h1.2.1, h2.2.2.1.trans h1.2.2.1, h2.2.2.2.trans h1.2.2.2⟩
  out _ _ := ⟨rfl, rfl, rfl, rfl⟩
  line _ _ := ⟨rfl, rfl, rfl, rfl⟩
  stop _ _ _ _ := ⟨rfl, rfl, rfl, rfl⟩
  alloc _ _ _ _ _ := ⟨rfl, rfl, rfl, rfl⟩
  store _ _ _ _ := ⟨rfl, rfl, rfl, rfl⟩
instance : WrFrame SameRegs := ⟨fun _ _ _ => ⟨rfl, rfl, rfl, rfl⟩⟩
instance : HeapFrame SameRegs := ⟨fun _ _ => ⟨rfl, rfl, rfl, rfl⟩⟩
instance : IpFrame SameRegs := ⟨fun _ _ => ⟨rfl, rfl, rfl, rfl⟩⟩

theorem KeepsSp.pure {α} (a : α) : KeepsSp (pure a : M α) := Rel.pure (R := SameRegs) a

theorem KeepsSp.of_rel {α} {f : M α} (h : Rel SameRegs f) : KeepsSp f := h

macro "keeps" : tactic => `(tactic| (refine KeepsSp.of_rel ?_; vm_rel))

theorem keeps_getArrElem (a i : Nat) : KeepsSp (getArrElem a i) := rel_getArrElem (R := SameRegs) a i
theorem keeps_wrSlot (i : Int) (s : Slot) : KeepsSp (wrSlot i s) := rel_wrSlot (R := SameRegs) i s

theorem keeps_setSp_run (v : Int) (vm : Vm) (a : Unit) (vm' : Vm) (h : (setSp v).run vm = .ok (a, vm')) :
    vm'.sp = v ∧ vm'.fp = vm.fp ∧ vm'.pp = vm.pp ∧ vm'.stackSize = vm.stackSize ∧ vm'.running = vm.running := by
  simp [setSp, modify, modifyGet, MonadStateOf.modifyGet, StateT.modifyGet, StateT.run, pure, Except.pure] at h
  obtain ⟨_, rfl⟩ := h
  exact ⟨rfl, rfl, rfl, rfl, rfl⟩

theorem getSp_run (vm : Vm) (a : Int) (vm' : Vm) (h : getSp.run vm = .ok (a, vm')) : a = vm.sp ∧ vm' = vm := by
  simp [getSp, get, getThe, MonadStateOf.get, StateT.get, StateT.run, pure, StateT.pure, Except.pure, bind, StateT.bind, Except.bind] at h
  exact ⟨h.1.symm, h.2.symm⟩

theorem resOf_none_raised (r : NRes) (vm vm' : Vm) (h : (resOf r).run vm = .ok (none, vm')) :
    vm'.running = 2 ∧ vm'.sp = vm.sp ∧ vm'.fp = vm.fp ∧ vm'.pp = vm.pp ∧ vm'.stackSize = vm.stackSize := by
  cases r with
  | ok v => simp [resOf, StateT.run, pure, StateT.pure, Except.pure] at h
  | exc e =>
    simp [resOf, raise, modify, modifyGet, MonadStateOf.modifyGet, StateT.modifyGet, StateT.run, pure, StateT.pure, Except.pure, bind, StateT.bind, Except.bind] at h
    subst h; exact ⟨rfl, rfl, rfl, rfl, rfl⟩
  | crash w => exact absurd h (by simp [resOf, crash, throw, throwThe, MonadExceptOf.throw, StateT.run, StateT.lift, liftM, monadLift, MonadLift.monadLift, Except.bind, bind])
  | tag => exact absurd h (by simp [resOf, crash, throw, throwThe, MonadExceptOf.throw, StateT.run, StateT.lift, liftM, monadLift, MonadLift.monadLift, Except.bind, bind])

/-- what one instruction handler does to the registers: `d` slots net popped, or an exception raised with the
registers untouched -/
def PopsOrRaises (f : M Unit) (d : Int) : Prop :=
  ∀ vm vm', f.run vm = .ok ((), vm') →
    vm'.fp = vm.fp ∧ vm'.pp = vm.pp ∧ vm'.stackSize = vm.stackSize ∧
    (vm'.sp = vm.sp - d ∨ (vm'.sp = vm.sp ∧ vm'.running = 2))

/-- the 58 typed binary handlers: two operands popped and one result pushed, or an exception raised -/
theorem execBin_effect (ty : NTy) (bop : BinOp) : PopsOrRaises (execBin ty bop) 1 := by
  intro vm vm' h
  unfold execBin at h
  obtain ⟨sp, v0, h0, h⟩ := (run_bind_ok _ _ _ _ _).mp h
  obtain ⟨rfl, rfl⟩ := getSp_run _ _ _ h0
  obtain ⟨a1, v1, h1, h⟩ := (run_bind_ok _ _ _ _ _).mp h
  obtain ⟨k1, k2, k3, k4⟩ := rel_rdAddr (R := SameRegs) _ _ _ _ h1
  obtain ⟨a, v2, h2, h⟩ := (run_bind_ok _ _ _ _ _).mp h
  obtain ⟨l1, l2, l3, l4⟩ := rel_scalarOf (R := SameRegs) _ _ _ _ _ h2
  obtain ⟨a3, v3, h3, h⟩ := (run_bind_ok _ _ _ _ _).mp h
  obtain ⟨m1, m2, m3, m4⟩ := rel_rdAddr (R := SameRegs) _ _ _ _ h3
  obtain ⟨b, v4, h4, h⟩ := (run_bind_ok _ _ _ _ _).mp h
  obtain ⟨n1, n2, n3, n4⟩ := rel_scalarOf (R := SameRegs) _ _ _ _ _ h4
  obtain ⟨r, v5, h5, h⟩ := (run_bind_ok _ _ _ _ _).mp h
  cases r with
  | none =>
    obtain ⟨q0, q1, q2, q3, q4⟩ := resOf_none_raised _ _ _ h5
    obtain ⟨_, rfl⟩ := (run_pure_ok _ _ _ _).mp h
    refine ⟨by omega, by omega, by omega, Or.inr ⟨by omega, q0⟩⟩
  | some v =>
    obtain ⟨q1, q2, q3, q4⟩ := rel_resOf (R := SameRegs) _ _ _ _ h5
    obtain ⟨ad, v6, h6, h⟩ := (run_bind_ok _ _ _ _ _).mp h
    obtain ⟨r1, r2, r3, r4⟩ := rel_alloc (R := SameRegs) _ _ _ _ h6
    obtain ⟨u, v7, h7, h⟩ := (run_bind_ok _ _ _ _ _).mp h
    obtain ⟨s1, s2, s3, s4⟩ := rel_wrSlot (R := SameRegs) _ _ _ _ _ h7
    obtain ⟨t1, t2, t3, t4, _⟩ := keeps_setSp_run _ _ _ _ h
    refine ⟨by omega, by omega, by omega, Or.inl (by omega)⟩

theorem execUn_effect (ty : NTy) (uop : UnOp) : PopsOrRaises (execUn ty uop) 0 := by
  intro vm vm' h
  unfold execUn at h
  obtain ⟨sp, v0, h0, h⟩ := (run_bind_ok _ _ _ _ _).mp h
  obtain ⟨rfl, rfl⟩ := getSp_run _ _ _ h0
  obtain ⟨a1, v1, h1, h⟩ := (run_bind_ok _ _ _ _ _).mp h
  obtain ⟨k1, k2, k3, k4⟩ := rel_rdAddr (R := SameRegs) _ _ _ _ h1
  obtain ⟨a, v2, h2, h⟩ := (run_bind_ok _ _ _ _ _).mp h
  obtain ⟨l1, l2, l3, l4⟩ := rel_scalarOf (R := SameRegs) _ _ _ _ _ h2
  obtain ⟨r, v5, h5, h⟩ := (run_bind_ok _ _ _ _ _).mp h
  obtain ⟨q1, q2, q3, q4⟩ := rel_resOf (R := SameRegs) _ _ _ _ h5
  cases r with
  | none =>
    obtain ⟨_, rfl⟩ := (run_pure_ok _ _ _ _).mp h
    refine ⟨by omega, by omega, by omega, Or.inl (by omega)⟩
  | some v =>
    obtain ⟨ad, v6, h6, h⟩ := (run_bind_ok _ _ _ _ _).mp h
    obtain ⟨r1, r2, r3, r4⟩ := rel_alloc (R := SameRegs) _ _ _ _ h6
    obtain ⟨s1, s2, s3, s4⟩ := rel_wrSlot (R := SameRegs) _ _ _ _ _ h
    refine ⟨by omega, by omega, by omega, Or.inl (by omega)⟩

theorem execConv_effect (src dst : NTy) : PopsOrRaises (execConv src dst) 0 := by
  intro vm vm' h
  unfold execConv at h
  obtain ⟨sp, v0, h0, h⟩ := (run_bind_ok _ _ _ _ _).mp h
  obtain ⟨rfl, rfl⟩ := getSp_run _ _ _ h0
  obtain ⟨a1, v1, h1, h⟩ := (run_bind_ok _ _ _ _ _).mp h
  obtain ⟨k1, k2, k3, k4⟩ := rel_rdAddr (R := SameRegs) _ _ _ _ h1
  obtain ⟨a, v2, h2, h⟩ := (run_bind_ok _ _ _ _ _).mp h
  obtain ⟨l1, l2, l3, l4⟩ := rel_scalarOf (R := SameRegs) _ _ _ _ _ h2
  obtain ⟨r, v5, h5, h⟩ := (run_bind_ok _ _ _ _ _).mp h
  obtain ⟨q1, q2, q3, q4⟩ := rel_resOf (R := SameRegs) _ _ _ _ h5
  cases r with
  | none =>
    obtain ⟨_, rfl⟩ := (run_pure_ok _ _ _ _).mp h
    refine ⟨by omega, by omega, by omega, Or.inl (by omega)⟩
  | some v =>
    obtain ⟨ad, v6, h6, h⟩ := (run_bind_ok _ _ _ _ _).mp h
    obtain ⟨r1, r2, r3, r4⟩ := rel_alloc (R := SameRegs) _ _ _ _ h6
    obtain ⟨s1, s2, s3, s4⟩ := rel_wrSlot (R := SameRegs) _ _ _ _ _ h
    refine ⟨by omega, by omega, by omega, Or.inl (by omega)⟩


/-! ### `exec` dispatches these opcodes to the three family handlers -/
theorem exec_bin (md : Module) (ins : Instr) (orc : Oracle) (ty : NTy) (bop : BinOp) (h : binOpOf ins.op = some (ty, bop)) (vm : Vm) :
    (exec md ins orc).run vm = (execBin ty bop).run vm := by
  unfold exec
  simp only [h, getSp, bind, StateT.bind, StateT.run, get, getThe, MonadStateOf.get, StateT.get, pure, StateT.pure, Except.pure, Except.bind]

theorem exec_un (md : Module) (ins : Instr) (orc : Oracle) (ty : NTy) (uop : UnOp)
    (h0 : binOpOf ins.op = none) (h : unOpOf ins.op = some (ty, uop)) (vm : Vm) :
    (exec md ins orc).run vm = (execUn ty uop).run vm := by
  unfold exec
  simp only [h0, h, getSp, bind, StateT.bind, StateT.run, get, getThe, MonadStateOf.get, StateT.get, pure, StateT.pure, Except.pure, Except.bind]

theorem exec_conv (md : Module) (ins : Instr) (orc : Oracle) (src dst : NTy)
    (h0 : binOpOf ins.op = none) (h1 : unOpOf ins.op = none) (h : convOf ins.op = some (src, dst)) (vm : Vm) :
    (exec md ins orc).run vm = (execConv src dst).run vm := by
  unfold exec
  simp only [h0, h1, h, getSp, bind, StateT.bind, StateT.run, get, getThe, MonadStateOf.get, StateT.get, pure, StateT.pure, Except.pure, Except.bind]

end Never.Vm
