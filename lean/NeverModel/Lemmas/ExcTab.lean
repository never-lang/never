/-
Properties of M-ExcTab (model of back/exctab.c `exctab_search`).

  excSearch_sound      any table: a found index is a real entry whose block contains ip
  excSearch_complete   well-formed table, ip below the sentinel: found, never OOB, never NULL
  excSearch_unique     well-formed table: the containing block is unique
  excSearch_in_bounds  any table with count+1 elements: no read outside tab[0..count]
-/
import NeverModel.Model.ExcTab

namespace Never

/-! ### `excAt` and `excBetween` -/

theorem excAt_some {tab : Array ExcEntry} {i : Int} {e : ExcEntry}
    (h : excAt tab i = some e) : 0 ≤ i ∧ tab[i.toNat]? = some e := by
  unfold excAt at h
  split at h
  · cases h
  · exact ⟨by omega, h⟩

theorem excAt_ofNat (tab : Array ExcEntry) (i : Int) (h : 0 ≤ i) :
    excAt tab i = tab[i.toNat]? := by
  unfold excAt
  split
  · omega
  · rfl

theorem excAt_isSome {tab : Array ExcEntry} {i : Int} (h0 : 0 ≤ i) (h1 : i.toNat < tab.size) :
    ∃ e, excAt tab i = some e := by
  rw [excAt_ofNat tab i h0]
  exact ⟨tab[i.toNat], Array.getElem?_eq_getElem h1⟩

theorem excBetween_neg {a b : ExcEntry} {ip : Nat} :
    excBetween a b ip < 0 ↔ ip < a.block := by
  unfold excBetween
  split
  · simp [*]
  · split <;> simp [*]

theorem excBetween_pos {a b : ExcEntry} {ip : Nat} (h : ¬ excBetween a b ip < 0) :
    excBetween a b ip > 0 ↔ b.block ≤ ip := by
  unfold excBetween at *
  split
  · simp_all
  · split <;> simp_all

/-! ### soundness (any table) -/

theorem excSearchLoop_sound (tab : Array ExcEntry) (ip : Nat) (frm to : Int) (i : Nat)
    (h : excSearchLoop tab ip frm to = some (some i)) :
    frm ≤ (i : Int) ∧ (i : Int) ≤ to ∧
    ∃ e1 e2, tab[i]? = some e1 ∧ tab[i + 1]? = some e2 ∧ e1.block ≤ ip ∧ ip < e2.block := by
  fun_induction excSearchLoop tab ip frm to with
  | case1 frm to hle middle e1 e2 h2 h1 cmp hneg ih =>
    have ih := ih h
    exact ⟨ih.1, by omega, ih.2.2⟩
  | case2 frm to hle middle e1 e2 h2 h1 cmp hneg hpos ih =>
    have ih := ih h
    exact ⟨by omega, ih.2.1, ih.2.2⟩
  | case3 frm to hle middle e1 e2 h2 h1 cmp hneg hpos =>
    cases h
    have ⟨hm0, hm1⟩ := excAt_some h1
    have ⟨_, hm2⟩ := excAt_some h2
    rw [show (middle + 1).toNat = middle.toNat + 1 by omega] at hm2
    have := mt excBetween_neg.mpr hneg
    have := mt (excBetween_pos hneg).mpr hpos
    exact ⟨by omega, by omega, e1, e2, hm1, hm2, by omega, by omega⟩
  | case4 => cases h
  | case5 => cases h

/-- Whatever the table, a found index `i` is one of the `count` real entries and
    `tab[i].block ≤ ip < tab[i+1].block`. -/
theorem excSearch_sound (tab : Array ExcEntry) (count ip i : Nat)
    (h : excSearch tab count ip = some (some i)) :
    i < count ∧
    ∃ e1 e2, tab[i]? = some e1 ∧ tab[i + 1]? = some e2 ∧ e1.block ≤ ip ∧ ip < e2.block := by
  unfold excSearch at h
  split at h
  · cases h
  · have := excSearchLoop_sound tab ip 0 ((count : Int) - 1) i h
    exact ⟨by omega, this.2.2⟩

/-! ### in-bounds and completeness (any table with `count + 1` elements) -/

/-- Within `tab[0..to+1]` every read is in bounds, and the loop leaves without a block only if
    `tab[frm].block ≤ ip < tab[to+1].block` fails: bisection keeps that invariant, and it is contradictory once
    `frm = to + 1`.  Monotonicity of the blocks is not needed (only for uniqueness). -/
theorem excSearchLoop_total (tab : Array ExcEntry) (ip : Nat) (frm to : Int)
    (h0 : 0 ≤ frm) (h1 : to + 1 < (tab.size : Int)) :
    ∃ r, excSearchLoop tab ip frm to = some r ∧
      ∀ ef et, frm ≤ to + 1 → tab[frm.toNat]? = some ef → tab[(to + 1).toNat]? = some et →
        ef.block ≤ ip → ip < et.block → r ≠ none := by
  fun_induction excSearchLoop tab ip frm to with
  | case1 frm to hle middle e1 e2 h2 h1' cmp hneg ih =>
    obtain ⟨r, hr, hinv⟩ := ih h0 (by omega)
    refine ⟨r, hr, fun ef et _ hf _ hlo _ => hinv ef e1 (by omega) hf ?_ hlo (excBetween_neg.mp hneg)⟩
    rw [show middle - 1 + 1 = middle by omega]
    exact (excAt_some h1').2
  | case2 frm to hle middle e1 e2 h2 h1' cmp hneg hpos ih =>
    obtain ⟨r, hr, hinv⟩ := ih (by omega) h1
    exact ⟨r, hr, fun ef et _ _ ht _ hhi =>
      hinv e2 et (by omega) (excAt_some h2).2 ht ((excBetween_pos hneg).mp hpos) hhi⟩
  | case3 => exact ⟨_, rfl, fun _ _ _ _ _ _ _ => nofun⟩
  | case4 frm to hle middle hnone =>
    obtain ⟨e1, he1⟩ := excAt_isSome (tab := tab) (i := middle) (by omega) (by omega)
    obtain ⟨e2, he2⟩ := excAt_isSome (tab := tab) (i := middle + 1) (by omega) (by omega)
    exact (hnone e1 e2 he1 he2).elim
  | case5 frm to hgt =>
    refine ⟨none, rfl, fun ef et hft hf ht hlo hhi => ?_⟩
    have : frm = to + 1 := by omega
    subst this
    rw [hf] at ht
    cases ht
    omega
/-- The loop never reads outside `tab[0..count]`, whatever the table contents. -/
theorem excSearch_in_bounds (tab : Array ExcEntry) (count ip : Nat)
    (hsz : tab.size = count + 1) : excSearch tab count ip ≠ none := by
  unfold excSearch
  split
  · simp
  · obtain ⟨r, hr, _⟩ := excSearchLoop_total tab ip 0 ((count : Int) - 1) (by omega) (by omega)
    rw [hr]
    nofun

/-! ### unpacking `ExcWF` -/

structure ExcWFP (tab : Array ExcEntry) (count : Nat) : Prop where
  size : tab.size = count + 1
  pos : 0 < count
  first : ∃ e, tab[0]? = some e ∧ e.block = 0
  incr : ∀ i, i < count → ∃ a b, tab[i]? = some a ∧ tab[i + 1]? = some b ∧ a.block < b.block
  last : ∃ e, tab[count]? = some e ∧ e.block = 4294967295

theorem ExcWF_prop {tab : Array ExcEntry} {count : Nat} (h : ExcWF tab count = true) :
    ExcWFP tab count := by
  unfold ExcWF at h
  simp only [Bool.and_eq_true, beq_iff_eq, decide_eq_true_eq, List.all_eq_true,
    List.mem_range] at h
  obtain ⟨⟨⟨⟨hs, hp⟩, hf⟩, hi⟩, hl⟩ := h
  refine ⟨hs, hp, ?_, ?_, ?_⟩
  · cases h0 : tab[0]? with
    | none => simp [h0] at hf
    | some e => exact ⟨e, rfl, by simpa [h0] using hf⟩
  · intro i hic
    have := hi i hic
    split at this
    · rename_i a b ha hb
      exact ⟨a, b, ha, hb, by simpa using this⟩
    · cases this
  · cases h0 : tab[count]? with
    | none => simp [h0] at hl
    | some e => exact ⟨e, rfl, by simpa [h0] using hl⟩

/-- strictly increasing blocks ⇒ `i < j ≤ count → block_i < block_j` -/
theorem ExcWFP.mono {tab : Array ExcEntry} {count : Nat} (w : ExcWFP tab count) :
    ∀ (d i : Nat) (a b : ExcEntry), i + d + 1 ≤ count →
      tab[i]? = some a → tab[i + d + 1]? = some b → a.block < b.block := by
  intro d
  induction d with
  | zero =>
    intro i a b hle ha hb
    obtain ⟨a', b', ha', hb', hlt⟩ := w.incr i (by omega)
    rw [ha] at ha'; rw [show i + 0 + 1 = i + 1 by omega, hb'] at hb
    cases ha'; cases hb
    exact hlt
  | succ d ih =>
    intro i a b hle ha hb
    obtain ⟨a', b', ha', hb', hlt⟩ := w.incr (i + d + 1) (by omega)
    have := ih i a a' (by omega) ha ha'
    rw [show i + (d + 1) + 1 = i + d + 1 + 1 by omega, hb'] at hb
    cases hb
    omega

theorem ExcWFP.lt_of_lt {tab : Array ExcEntry} {count : Nat} (w : ExcWFP tab count)
    {i j : Nat} {a b : ExcEntry} (hij : i < j) (hj : j ≤ count)
    (ha : tab[i]? = some a) (hb : tab[j]? = some b) : a.block < b.block := by
  have : j = i + (j - i - 1) + 1 := by omega
  rw [this] at hb
  exact w.mono (j - i - 1) i a b (by omega) ha hb

/-- On a well-formed table every `ip` below the sentinel is found: no out-of-bounds read, no
    NULL result (so `assert(res != NULL)` in `exception_tab_search` holds), and the index
    returned is the block containing `ip`. -/
theorem excSearch_complete (tab : Array ExcEntry) (count ip : Nat)
    (hwf : ExcWF tab count = true) (hip : ip < 4294967295) :
    ∃ i e1 e2, excSearch tab count ip = some (some i) ∧ i < count ∧
      tab[i]? = some e1 ∧ tab[i + 1]? = some e2 ∧ e1.block ≤ ip ∧ ip < e2.block := by
  have w := ExcWF_prop hwf
  obtain ⟨ef, hf, hf0⟩ := w.first
  obtain ⟨et, ht, ht0⟩ := w.last
  have hpos := w.pos
  have hsz := w.size
  have ⟨i, hi⟩ : ∃ i, excSearch tab count ip = some (some i) := by
    unfold excSearch
    rw [if_neg (by omega)]
    obtain ⟨r, hr, hinv⟩ := excSearchLoop_total tab ip 0 ((count : Int) - 1) (by omega) (by omega)
    have hne := hinv ef et (by omega) (by simpa using hf) ?_ (by omega) (by omega)
    · cases r with
      | none => exact absurd rfl hne
      | some i => exact ⟨i, hr⟩
    · rw [show ((count : Int) - 1 + 1).toNat = count by omega]
      exact ht
  have ⟨hic, e1, e2, h1, h2, hlo, hhi⟩ := excSearch_sound tab count ip i hi
  exact ⟨i, e1, e2, hi, hic, h1, h2, hlo, hhi⟩

/-- On a well-formed table the block containing `ip` is unique. -/
theorem excSearch_unique (tab : Array ExcEntry) (count ip i j : Nat)
    (hwf : ExcWF tab count = true)
    (a1 a2 b1 b2 : ExcEntry)
    (hi : i < count) (hj : j < count)
    (ha1 : tab[i]? = some a1) (ha2 : tab[i + 1]? = some a2)
    (hb1 : tab[j]? = some b1) (hb2 : tab[j + 1]? = some b2)
    (hai : a1.block ≤ ip ∧ ip < a2.block) (hbj : b1.block ≤ ip ∧ ip < b2.block) :
    i = j := by
  have w := ExcWF_prop hwf
  rcases Nat.lt_trichotomy i j with hlt | heq | hgt
  · -- i + 1 ≤ j : block_{i+1} ≤ block_j ≤ ip < block_{i+1}
    exfalso
    by_cases h : i + 1 = j
    · subst h
      rw [ha2] at hb1; cases hb1; omega
    · have := w.lt_of_lt (i := i + 1) (j := j) (by omega) (by omega) ha2 hb1
      omega
  · exact heq
  · exfalso
    by_cases h : j + 1 = i
    · subst h
      rw [hb2] at ha1; cases ha1; omega
    · have := w.lt_of_lt (i := j + 1) (j := i) (by omega) (by omega) hb2 ha1
      omega

/-- Corollary: on a well-formed table, for `ip` below the sentinel, the search returns `i`
    exactly when `i` is the block containing `ip`. -/
theorem excSearch_eq_iff (tab : Array ExcEntry) (count ip i : Nat)
    (hwf : ExcWF tab count = true) (hip : ip < 4294967295) :
    excSearch tab count ip = some (some i) ↔
      i < count ∧ ∃ e1 e2, tab[i]? = some e1 ∧ tab[i + 1]? = some e2 ∧
        e1.block ≤ ip ∧ ip < e2.block := by
  constructor
  · exact excSearch_sound tab count ip i
  · intro ⟨hic, e1, e2, h1, h2, hlo, hhi⟩
    obtain ⟨j, b1, b2, hs, hjc, hb1, hb2, hlo', hhi'⟩ := excSearch_complete tab count ip hwf hip
    have := excSearch_unique tab count ip i j hwf e1 e2 b1 b2 hic hjc h1 h2 hb1 hb2
      ⟨hlo, hhi⟩ ⟨hlo', hhi'⟩
    rw [this]; exact hs

/-- `exception_tab_search` returns the handler of the containing block. -/
theorem excHandler_complete (tab : Array ExcEntry) (count ip : Nat)
    (hwf : ExcWF tab count = true) (hip : ip < 4294967295) :
    ∃ i e1 e2, i < count ∧ tab[i]? = some e1 ∧ tab[i + 1]? = some e2 ∧
      e1.block ≤ ip ∧ ip < e2.block ∧ excHandler tab count ip = some e1.handler := by
  obtain ⟨i, e1, e2, hs, hic, h1, h2, hlo, hhi⟩ := excSearch_complete tab count ip hwf hip
  refine ⟨i, e1, e2, hic, h1, h2, hlo, hhi, ?_⟩
  unfold excHandler
  rw [hs]
  simp [h1]

/-- The sentinel address itself is NOT covered: on every well-formed table
    `exctab_search` returns NULL for `ip = UINT_MAX` (the C `assert` would fail). -/
theorem excSearch_sentinel_null (tab : Array ExcEntry) (count : Nat)
    (hwf : ExcWF tab count = true) :
    excSearch tab count 4294967295 = some none := by
  have w := ExcWF_prop hwf
  have hb := excSearch_in_bounds tab count 4294967295 w.size
  cases hr : excSearch tab count 4294967295 with
  | none => exact absurd hr hb
  | some r =>
    cases r with
    | none => rfl
    | some i =>
      exfalso
      obtain ⟨hic, e1, e2, h1, h2, hlo, hhi⟩ := excSearch_sound tab count _ i hr
      obtain ⟨et, ht, ht0⟩ := w.last
      by_cases h : i + 1 = count
      · subst h; rw [h2] at ht; cases ht; omega
      · have := w.lt_of_lt (i := i + 1) (j := count) (by omega) (by omega) h2 ht
        omega

/-! ### non-vacuity -/

def exTab : Array ExcEntry :=
  #[⟨0, 100⟩, ⟨10, 200⟩, ⟨25, 300⟩, ⟨4294967295, 4294967295⟩]

example : ExcWF exTab 3 = true := by decide
example : excSearch exTab 3 0 = some (some 0) := by decide +kernel
example : excSearch exTab 3 12 = some (some 1) := by decide +kernel
example : excSearch exTab 3 4294967294 = some (some 2) := by decide +kernel
example : excHandler exTab 3 12 = some 200 := by decide +kernel
example : excSearch exTab 3 4294967295 = some none := by decide +kernel
-- a too-large `count` is reported as an out-of-bounds read
example : excSearch exTab 5 4294967295 = none := by decide +kernel


end Never
