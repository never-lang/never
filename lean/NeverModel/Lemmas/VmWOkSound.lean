import NeverModel.Model.Verify
import NeverModel.Lemmas.VmEFSound
import NeverModel.Lemmas.VmKeeps
import NeverModel.Lemmas.VmWOkFamilies
import NeverModel.Lemmas.VerRun
import NeverModel.Lemmas.VmInitArray
set_option linter.unusedSimpArgs false
set_option linter.unusedVariables false
/-! no handler of `exec`, and no `step`, ends in the crash of a stack store outside `[0, stackSize)`: every store is preceded by a read
of the same or a lower slot (lower bound) and by a read of the same or a higher slot or by `vm_check_stack` (upper bound) -/
namespace Never.Vm
open Never Never.Num Never.Ver

/-! ### the pure frame operations -/

theorem wrP_bind_not_wild {vm : Vm} {i : Int} {x : Slot} {k : Vm → Except Stop Vm} (h0 : 0 ≤ i) (h1 : i < vm.stackSize)
    (hk : ∀ v, v.stackSize = vm.stackSize → v.sp = vm.sp → k v ≠ .error wildWrite) : (wrP vm i x >>= k) ≠ .error wildWrite := by
  unfold wrP
  have : ¬ (i < 0 ∨ i ≥ vm.stackSize) := by omega
  simp only [this, if_false, bind, Except.bind]
  exact hk _ rfl rfl

theorem rdP_bind_not_wild {vm : Vm} {i : Int} {k : Slot → Except Stop Vm}
    (hk : ∀ x, 0 ≤ i → i < vm.stackSize → k x ≠ .error wildWrite) : (rdP vm i >>= k) ≠ .error wildWrite := by
  unfold rdP
  by_cases hb : i < 0 ∨ i ≥ vm.stackSize
  · simp only [hb, if_true, bind, Except.bind]; intro h; injection h with h; injection h with h; exact absurd h (by decide)
  · simp only [hb, if_false, bind, Except.bind]; exact hk _ (by omega) (by omega)

theorem checkP_bind_not_wild {vm : Vm} {k : Vm → Except Stop Vm}
    (hk : vm.sp < vm.stackSize → k vm ≠ .error wildWrite) : (checkP vm >>= k) ≠ .error wildWrite := by
  unfold checkP
  by_cases hb : vm.sp ≥ vm.stackSize
  · simp only [hb, if_true, bind, Except.bind]; intro h; cases h
  · simp only [hb, if_false, bind, Except.bind]; exact hk (by omega)

/-- MARK (repaired order): the check comes before the five stores -/
theorem markP_not_wild (vm : Vm) (ra : Nat) (h : -1 ≤ vm.sp) : markP vm ra ≠ .error wildWrite := by
  unfold markP
  refine checkP_bind_not_wild (fun hc => ?_)
  try simp only at hc
  refine wrP_bind_not_wild (by first | omega | (simp only; omega)) (by first | omega | (simp only; omega)) (fun v1 e1 _ => ?_)
  try simp only at e1
  refine wrP_bind_not_wild (by omega) (by omega) (fun v2 e2 _ => ?_)
  refine wrP_bind_not_wild (by omega) (by omega) (fun v3 e3 _ => ?_)
  refine wrP_bind_not_wild (by omega) (by omega) (fun v4 e4 _ => ?_)
  refine wrP_bind_not_wild (by omega) (by omega) (fun v5 e5 _ => ?_)
  intro hh; cases hh

theorem slideLoopP_not_wild (q : Nat) : ∀ (n : Nat) (vm : Vm), -1 ≤ vm.sp → slideLoopP q n vm ≠ .error wildWrite := by
  intro n
  induction n with
  | zero => intro vm _; unfold slideLoopP; intro h; cases h
  | succ n ih =>
    intro vm h
    unfold slideLoopP
    refine rdP_bind_not_wild (fun x _ hb => ?_)
    refine wrP_bind_not_wild (by omega) (by first | omega | (simp only; omega)) (fun v _ e => ?_)
    try simp only at e
    exact ih v (by omega)

/-- SLIDE q m: the first slot stored to is `sp − q − m + 1` -/
theorem slideP_not_wild (vm : Vm) (q m : Nat) (h : q ≠ 0 → m ≠ 0 → -1 ≤ vm.sp - (q : Int) - (m : Int)) :
    slideP vm q m ≠ .error wildWrite := by
  unfold slideP
  split
  · intro hh; cases hh
  · rename_i hq
    split
    · intro hh; cases hh
    · rename_i hm
      exact slideLoopP_not_wild q m _ (by simp only; exact h (by simpa using hq) (by simpa using hm))

/-- RET / RETHROW: the one store goes to `fp − 4`, a slot read just before -/
theorem retP_not_wild (vm : Vm) : retP vm ≠ .error wildWrite := by
  unfold retP
  refine rdP_bind_not_wild (fun _ _ _ => ?_)
  refine rdP_bind_not_wild (fun _ _ _ => ?_)
  refine rdP_bind_not_wild (fun _ b0 b1 => ?_)
  refine rdP_bind_not_wild (fun _ _ _ => ?_)
  refine wrP_bind_not_wild b0 b1 (fun v _ _ => ?_)
  refine rdP_bind_not_wild (fun _ _ _ => ?_)
  intro hh; cases hh

theorem liftE_run_err {α} (r : Except Stop α) (vm : Vm) (e : Stop) (h : (liftE r : M α).run vm = .error e) : r = .error e := by
  unfold liftE at h
  cases r with
  | ok a => simp [pure, StateT.pure, StateT.run, Except.pure] at h
  | error e' =>
    simp [throw, throwThe, MonadExceptOf.throw, StateT.run, StateT.lift, liftM, monadLift, MonadLift.monadLift, Except.bind, bind] at h
    rw [h]

theorem wok_liftP {β} (P : Vm → Except Stop Vm) (k : Vm → M β) (N : Nat) (s : Int)
    (h : ∀ vm, vm.stackSize = N → vm.sp = s → P vm ≠ .error wildWrite) (hk : ∀ v, NoWC (k v)) :
    WOk N s (get >>= fun vm => liftE (P vm) >>= fun v => k v) := by
  intro vm hN hs he
  rcases (run_bind_err _ _ vm _).mp he with h1 | ⟨x, vm1, h1, h2⟩
  · exact nowc_get vm h1
  · obtain ⟨e1, e1'⟩ := get_run _ _ _ h1
    subst e1 e1'
    rcases (run_bind_err _ _ _ _).mp h2 with h3 | ⟨v, vm2, h3, h4⟩
    · exact h _ hN hs (liftE_run_err _ _ _ h3)
    · exact hk v vm2 h4

theorem nowc_gcRun : NoWC gcRun := by
  unfold gcRun
  refine NoWC.bind nowc_get (fun vm => ?_)
  split
  · exact nowc_set _
  · rename_i e he
    have : e = .crash "collector reads a foreign or wrongly typed object" := by
      unfold gcRunPure at he
      split at he
      · cases he
      · dsimp only at he
        split at he
        · cases he
        · cases he; rfl
    subst this
    exact nowc_crash _ (by decide)

/-! ### the opcodes outside the effect table -/

theorem wok_MARK (md : Module) (ins : Instr) (orc : Oracle) (N : Nat) (s : Int) (h0 : -1 ≤ s) (h : ins.op = .MARK) :
    WOk N s (exec md ins orc) := by
  exec_wsel h
  exact wok_liftP (fun vm => markP vm ins.w0) _ N s (fun vm _ hs => markP_not_wild vm _ (by omega)) (fun v => nowc_set v)

theorem wok_SLIDE (md : Module) (ins : Instr) (orc : Oracle) (N : Nat) (s : Int)
    (hf : ins.w0 ≠ 0 → ins.w1 ≠ 0 → -1 ≤ s - (ins.w0 : Int) - (ins.w1 : Int)) (h : ins.op = .SLIDE) :
    WOk N s (exec md ins orc) := by
  exec_wsel h
  split
  · exact WOk.of_nowc nowc_gcRun
  · exact wok_liftP (fun vm => slideP vm ins.w0 ins.w1) _ N s (fun vm _ hs => slideP_not_wild vm _ _ (by rw [hs]; exact hf))
      (fun v => NoWC.bind (nowc_set v) (fun _ => nowc_gcRun))

theorem wok_RET (md : Module) (ins : Instr) (orc : Oracle) (N : Nat) (s : Int) (h : ins.op = .RET ∨ ins.op = .RETHROW) :
    WOk N s (exec md ins orc) := by
  rcases h with h | h
  all_goals
    exec_wsel h
    refine wok_liftP (fun vm => retP vm) _ N s (fun vm _ _ => retP_not_wild vm) (fun v => ?_)
    refine NoWC.bind (nowc_set v) (fun _ => NoWC.bind nowc_gcRun (fun _ => ?_))
    split
    · exact nowc_modify _
    · exact NoWC.pure _

theorem nowc_exec_nostore (md : Module) (ins : Instr) (orc : Oracle)
    (h : ins.op = .CALL ∨ ins.op = .CLEAR_STACK ∨ ins.op = .JUMP ∨ ins.op = .HALT ∨ ins.op = .UNHANDLED_EXCEPTION ∨
      ins.op = .UNKNOWN ∨ ins.op = .ID_FUNC_FUNC ∨
      (ins.op = .FUNC_FFI ∨ ins.op = .FUNC_FFI_BOOL ∨ ins.op = .FUNC_FFI_INT ∨ ins.op = .FUNC_FFI_LONG ∨ ins.op = .FUNC_FFI_FLOAT ∨
       ins.op = .FUNC_FFI_DOUBLE ∨ ins.op = .FUNC_FFI_CHAR ∨ ins.op = .FUNC_FFI_STRING ∨ ins.op = .FUNC_FFI_VOID ∨
       ins.op = .FUNC_FFI_C_PTR ∨ ins.op = .FUNC_FFI_RECORD)) : NoWC (exec md ins orc) := by
  rcases h with h | h | h | h | h | h | h | h | h | h | h | h | h | h | h | h | h | h
  all_goals
    unfold exec
    simp only [h, binOpOf, unOpOf, convOf, nilCmpOf, strAddOf, arrOpOf, mkArrayElem]
    nowc

theorem nowc_fillStrs (arr : Nat) : ∀ (ss : List (List UInt8)) (i : Nat), NoWC (fillStrs arr i ss) := by
  intro ss
  induction ss with
  | nil => intro i; unfold fillStrs; nowc
  | cons s rest ih => intro i; unfold fillStrs; have := ih (i + 1); nowc

/-- `pushParams` only pushes (each push checked) -/
theorem pushParams_wok (N : Nat) : ∀ (ps : List Param) (s : Int), -1 ≤ s → WOk N s (pushParams ps) := by
  intro ps
  induction ps with
  | nil => intro s _; unfold pushParams; exact WOk.of_nowc (NoWC.pure _)
  | cons p rest ih =>
    intro s h
    have tail : ∀ a : Nat, WOk N s (do pushAddr a; pushParams rest) := fun a =>
      WOk.mov_bind (pushAddr_mov _ _) (WOk.pushAddr _ _ _ h) (fun _ => ih _ (by omega))
    unfold pushParams
    cases p with
    | int v => exact WOk.keeps_bind (by keeps) (WOk.of_nowc (by nowc)) (fun a => by simpa using tail a)
    | float b => exact WOk.keeps_bind (by keeps) (WOk.of_nowc (by nowc)) (fun a => by simpa using tail a)
    | str st =>
      refine WOk.keeps_bind (by keeps) (WOk.of_nowc (by nowc)) (fun a => ?_)
      exact WOk.keeps_bind (by keeps) (WOk.of_nowc (by nowc)) (fun a => by simpa using tail a)
    | strArr ss =>
      refine WOk.keeps_bind (by keeps) (WOk.of_nowc (by nowc)) (fun a => ?_)
      refine WOk.keeps_bind (keeps_fillStrs _ _ _) (WOk.of_nowc (nowc_fillStrs _ _ _)) (fun _ => ?_)
      exact WOk.keeps_bind (by keeps) (WOk.of_nowc (by nowc)) (fun a => by simpa using tail a)

theorem wok_PUSH_PARAM (md : Module) (ins : Instr) (orc : Oracle) (N : Nat) (s : Int) (h0 : -1 ≤ s) (h : ins.op = .PUSH_PARAM) :
    WOk N s (exec md ins orc) := by
  exec_wsel h
  exact pushParams_wok _ _ _ h0

theorem wok_MK_INIT_ARRAY (md : Module) (ins : Instr) (orc : Oracle) (N : Nat) (s : Int) (h0 : -1 ≤ s) (h1 : s < N) (h : ins.op = .MK_INIT_ARRAY) :
    WOk N s (exec md ins orc) := by
  exec_wsel h
  refine WOk.popInts_bind (fun exts hl => ?_)
  refine WOk.keeps_bind (by keeps) (WOk.of_nowc (by nowc)) (fun arr => ?_)
  refine WOk.keeps_bind (by keeps) (WOk.of_nowc (by nowc)) (fun p => ?_)
  obtain ⟨dv, es⟩ := p
  dsimp only
  refine WOk.popAddrs_bind (fun _ hl2 => ?_)
  wok

/-! ### the effect table -/

theorem wok_JUMPZ (md : Module) (ins : Instr) (orc : Oracle) (N : Nat) (s : Int) (h0 : -1 ≤ s) (h1 : s < N) (h : ins.op = .JUMPZ) : WOk N s (exec md ins orc) := by exec_wok h

/-- every handler outside the opcode families and the control opcodes, `BUILD_IN`, `MK_INIT_ARRAY` and `PUSH_PARAM`: one walk over `exec` -/
theorem exec_wok_plain (md : Module) (ins : Instr) (orc : Oracle) (N : Nat) (s : Int) (h0 : -1 ≤ s) (h1 : s < N)
    (hb : binOpOf ins.op = none) (hu : unOpOf ins.op = none) (hc : convOf ins.op = none) (hn : nilCmpOf ins.op = none)
    (hs : strAddOf ins.op = none) (ha : arrOpOf ins.op = none) (hm : mkArrayElem ins.op = none)
    (hbi : ins.op ≠ .BUILD_IN) (hct : isControl ins.op = false) (hmk : ins.op ≠ .MK_INIT_ARRAY) (hpp : ins.op ≠ .PUSH_PARAM) :
    WOk N s (exec md ins orc) := by
  unfold exec
  simp only [hb, hu, hc, hn, hs, ha, hm]
  refine WOk.getSp_bind ?_
  split
  all_goals first
    | (rename_i hop; exact absurd hop hbi)
    | (rename_i hop; rw [hop] at hct; exact Bool.noConfusion hct)
    | (rename_i hop; exact absurd hop hmk)
    | (rename_i hop; exact absurd hop hpp)
    | wok

theorem exec_wok_table (md : Module) (ins : Instr) (orc : Oracle) (p q : Nat) (h : simpleEffect ins = some (p, q))
    (N : Nat) (s : Int) (h0 : -1 ≤ s) (h1 : s < N) :
    WOk N s (exec md ins orc) := by
  cases hb : binOpOf ins.op with
  | some tb =>
    obtain ⟨ty, bop⟩ := tb
    intro vm hN hs he; rw [exec_bin md ins orc ty bop hb] at he; exact wok_execBin ty bop N s h0 h1 vm hN hs he
  | none =>
  cases hu : unOpOf ins.op with
  | some tu =>
    obtain ⟨ty, uop⟩ := tu
    intro vm hN hs he; rw [exec_un md ins orc ty uop hb hu] at he; exact wok_execUn ty uop N s h0 h1 vm hN hs he
  | none =>
  cases hc : convOf ins.op with
  | some tc =>
    obtain ⟨src, dst⟩ := tc
    intro vm hN hs he; rw [exec_conv md ins orc src dst hb hu hc] at he; exact wok_execConv src dst N s h0 h1 vm hN hs he
  | none =>
  cases hn : nilCmpOf ins.op with
  | some tn =>
    obtain ⟨k, nl, ng⟩ := tn
    exact wok_nilCmp md ins orc N s h0 h1 k nl ng hb hu hc hn
  | none =>
  cases hs : strAddOf ins.op with
  | some ts =>
    obtain ⟨ty, sl⟩ := ts
    exact wok_strAdd md ins orc N s h0 h1 ty sl hb hu hc hn hs
  | none =>
  cases ha : arrOpOf ins.op with
  | some ta =>
    obtain ⟨ty, kind⟩ := ta
    exact wok_arrOp md ins orc N s h0 h1 ty kind hb hu hc hn hs ha
  | none =>
  cases hm : mkArrayElem ins.op with
  | some dflt =>
    exact wok_mkArray md ins orc N s h0 h1 dflt hb hu hc hn hs ha hm
  | none =>
  by_cases hbi : ins.op = .BUILD_IN
  · exact wok_BUILD_IN md ins orc N s h0 h1 hbi
  by_cases hj : ins.op = .JUMPZ
  · exact wok_JUMPZ md ins orc N s h0 h1 hj
  · exact exec_wok_plain md ins orc N s h0 h1 hb hu hc hn hs ha hm hbi (table_not_control ins p q h hj)
      (fun e => by rw [simpleEffect_op e] at h; cases h) (fun e => by rw [simpleEffect_op e] at h; cases h)

/-- **every handler.**  From `−1 ≤ sp < stackSize` no handler of `exec` ends in the crash of a stack store outside the array, with one
proviso that is stated, not assumed away: SLIDE `q m` with both operands non-zero needs `−1 ≤ sp − q − m` (its first store goes to
`sp − q − m + 1`; the certificate of a verified module gives this at the recorded height). -/
theorem exec_wok (md : Module) (ins : Instr) (orc : Oracle) (N : Nat) (s : Int) (h0 : -1 ≤ s) (h1 : s < N)
    (hslide : ins.op = .SLIDE → ins.w0 ≠ 0 → ins.w1 ≠ 0 → -1 ≤ s - (ins.w0 : Int) - (ins.w1 : Int)) : WOk N s (exec md ins orc) := by
  cases he : simpleEffect ins with
  | some pq => exact exec_wok_table md ins orc pq.1 pq.2 he N s h0 h1
  | none =>
    rcases simpleEffect_none_cases ins he with h | h | h | h | h | h | h | h | h | h | h | h | h | h
    · exact WOk.of_nowc (nowc_exec_nostore md ins orc (by simp [h]))
    · exact WOk.of_nowc (nowc_exec_nostore md ins orc (by simp [h]))
    · exact WOk.of_nowc (nowc_exec_nostore md ins orc (Or.inr (Or.inr (Or.inr (Or.inr (Or.inr (Or.inr (Or.inr h))))))))
    · exact WOk.of_nowc (nowc_exec_nostore md ins orc (by simp [h]))
    · exact wok_MK_INIT_ARRAY md ins orc N s h0 h1 h
    · exact wok_MARK md ins orc N s h0 h
    · exact WOk.of_nowc (nowc_exec_nostore md ins orc (by simp [h]))
    · exact wok_SLIDE md ins orc N s (hslide h) h
    · exact WOk.of_nowc (nowc_exec_nostore md ins orc (by simp [h]))
    · exact wok_RET md ins orc N s (Or.inl h)
    · exact wok_RET md ins orc N s (Or.inr h)
    · exact wok_PUSH_PARAM md ins orc N s h0 h
    · exact WOk.of_nowc (nowc_exec_nostore md ins orc (by simp [h]))
    · exact WOk.of_nowc (nowc_exec_nostore md ins orc (by simp [h]))

/-- **`step`.**  fetch, `ip++`, handler, exception dispatch: the fetch and the dispatch store nothing -/
theorem step_wok (md : Module) (orc : Oracle) (vm : Vm) (h0 : -1 ≤ vm.sp) (h1 : vm.sp < vm.stackSize)
    (hslide : ∀ ins, md.code[vm.ip]? = some ins → ins.op = .SLIDE → ins.w0 ≠ 0 → ins.w1 ≠ 0 → -1 ≤ vm.sp - (ins.w0 : Int) - (ins.w1 : Int)) :
    (step md orc).run vm ≠ .error wildWrite := by
  intro he
  unfold step at he
  rcases (run_bind_err _ _ vm _).mp he with e1 | ⟨v0, s0, g0, he1⟩
  · exact nowc_get vm e1
  obtain ⟨e0, e0'⟩ := get_run _ _ _ g0
  rw [e0, e0'] at he1
  cases hf : md.code[vm.ip]? with
  | none =>
    rw [hf] at he1
    exact nowc_crash _ (by decide) _ he1
  | some ins =>
    rw [hf] at he1
    dsimp only at he1
    rcases (run_bind_err _ _ _ _).mp he1 with e1 | ⟨u1, s1, g1, he2⟩
    · exact nowc_set _ _ e1
    have e1 := set_run _ _ _ _ g1
    rw [e1] at he2
    rcases (run_bind_err _ _ _ _).mp he2 with e2 | ⟨u2, s2, g2, he3⟩
    · exact exec_wok md ins orc vm.stackSize vm.sp h0 h1 (hslide ins hf) { vm with ip := vm.ip + 1 } rfl rfl e2
    rcases (run_bind_err _ _ _ _).mp he3 with e3 | ⟨v3, s3, g3, he4⟩
    · exact nowc_get _ e3
    obtain ⟨e3, e3'⟩ := get_run _ _ _ g3
    rw [e3, e3'] at he4
    split at he4
    · split at he4
      · exact nowc_set _ _ he4
      · exact nowc_crash _ (by decide) _ he4
    · exact NoWC.pure _ _ he4

end Never.Vm
