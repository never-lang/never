import NeverModel.Lemmas.VerCert
import NeverModel.Model.VerifyRun
import NeverModel.Lemmas.VmFrameOps
import NeverModel.Lemmas.VmInitArray
import NeverModel.Lemmas.ExcTab
set_option linter.unusedSimpArgs false
set_option linter.unusedVariables false
/-! from the certificate `flowOk` to executions of M-VM: the invariant "running at the recorded height", one step, many steps -/
namespace Never.Ver
open Never Never.Vm

/-- the machine is running at a reached address with `sp` exactly the recorded height above the parameters of the running
function: `sp = pp + nparams + h(ip)` -/
def AtHeight (md : Module) (hm : HMap) (vm : Vm) : Prop :=
  vm.running = 1 ∧ ∃ st, hm[vm.ip]? = some (some st) ∧ vm.sp = vm.pp + (fnParamsAt md vm.ip : Int) + (st.h : Int)

/-- the machine is running at the entry of an exception handler (`[LABEL] CLEAR_STACK/RETHROW/UNHANDLED_EXCEPTION`): `sp` is
whatever the faulting instruction left, the handler's first effective instruction resets it from `pp` -/
def AtHandler (md : Module) (hm : HMap) (vm : Vm) : Prop :=
  vm.running = 1 ∧ handlerEntry md vm.ip = true ∧ ∃ st, hm[vm.ip]? = some (some st)

/-- the calls in preparation the certificate records behind the instruction at `a`: MARK adds its height, CLEAR_STACK drops them all,
every other instruction keeps them -/
def marksNext (md : Module) (hm : HMap) (a : Nat) : List Nat :=
  match md.code[a]?, hm[a]? with
  | some i, some (some st) => if i.op = .MARK then st.h :: st.marks else if i.op = .CLEAR_STACK then [] else st.marks
  | _, _ => []

/-- what the certificate says about the edge `a → t` a step has taken: same function, the recorded calls in preparation are those
behind `a`, and `t` continues a run of `INT` pushes only when the step was an `INT` falling through -/
def EdgeOk (md : Module) (hm : HMap) (a t : Nat) : Prop :=
  sameFn (funcStarts md) a t = true ∧ marksAt hm t = marksNext md hm a ∧
  (intRun md t = [] ∨ (t = a + 1 ∧ ∃ i, md.code[a]? = some i ∧ i.op = .INT))

/-- outcome of one step that stays inside the running activation -/
def Succ (md : Module) (hm : HMap) (vm vm' : Vm) : Prop :=
  vm'.pp = vm.pp ∧ vm'.stackSize = vm.stackSize ∧
  ((AtHeight md hm vm' ∧ EdgeOk md hm vm.ip vm'.ip) ∨
   (AtHandler md hm vm' ∧ (vm'.ip = vm.ip + 1 ∨ excHandler md.exctab md.excCount vm.ip = some vm'.ip)) ∨
   vm'.running = 3)

section
variable {md : Module} {hm : HMap}

theorem flow_table (hf : flowOk md hm = true) {a : Nat} {i : Instr} {st : AbsSt} {p q : Nat}
    (hi : md.code[a]? = some i) (hs : hm[a]? = some (some st)) (he : simpleEffect i = some (p, q)) (hj : i.op ≠ .JUMPZ) :
    ∃ st', hm[a + 1]? = some (some st') ∧ p ≤ st.h ∧ st'.h + p = st.h + q := by
  have h := flow_at hf hi
  simp only [flowOkAt, hi, hs, he, beq_eq_false_iff_ne.mpr hj, Bool.false_eq_true, if_false] at h
  obtain ⟨st', e, h⟩ := hm_some h
  simp only [Bool.and_eq_true, decide_eq_true_eq, beq_iff_eq] at h
  exact ⟨st', e, h⟩

theorem flow_branch (hf : flowOk md hm = true) {a : Nat} {i : Instr} {st : AbsSt}
    (hi : md.code[a]? = some i) (hs : hm[a]? = some (some st)) :
    (i.op = .JUMPZ → 1 ≤ st.h ∧ (∃ s1, hm[a + 1]? = some (some s1) ∧ s1.h + 1 = st.h) ∧
        (∃ s2, hm[((a : Int) + 1 + i32 i.w0).toNat]? = some (some s2) ∧ s2.h + 1 = st.h)) ∧
    (i.op = .JUMP → ∃ s2, hm[((a : Int) + 1 + i32 i.w0).toNat]? = some (some s2) ∧ s2.h = st.h) := by
  have key := flow_at hf hi
  simp only [flowOkAt, hi, hs] at key
  constructor
  · intro hop
    have he : simpleEffect i = some (1, 0) := simpleEffect_op hop
    simp only [he, hop, beq_self_eq_true, if_true, Bool.and_eq_true] at key
    obtain ⟨s1, e1, k1⟩ := hm_some key.1
    obtain ⟨s2, e2, k2⟩ := hm_some key.2
    simp only [Bool.and_eq_true, decide_eq_true_eq, beq_iff_eq] at k1 k2
    exact ⟨k1.1, ⟨s1, e1, by omega⟩, ⟨s2, e2, by omega⟩⟩
  · intro hop
    have he : simpleEffect i = none := simpleEffect_op hop
    simp only [he, hop, beq_self_eq_true, if_true] at key
    obtain ⟨s2, e2, k2⟩ := hm_some key
    exact ⟨s2, e2, beq_iff_eq.mp k2⟩

theorem fnParamsAt_same {a t : Nat} (h : sameFn (funcStarts md) a t = true) : fnParamsAt md t = fnParamsAt md a :=
  (sameFn_np h).1

theorem marksNext_other {a : Nat} {i : Instr} {st : AbsSt} (hi : md.code[a]? = some i) (hs : hm[a]? = some (some st))
    (h1 : i.op ≠ .MARK) (h2 : i.op ≠ .CLEAR_STACK) : marksNext md hm a = st.marks := by
  unfold marksNext; simp only [hi, hs, h1, h2, if_false]

theorem marksNext_MARK {a : Nat} {i : Instr} {st : AbsSt} (hi : md.code[a]? = some i) (hs : hm[a]? = some (some st))
    (h1 : i.op = .MARK) : marksNext md hm a = st.h :: st.marks := by
  unfold marksNext; simp only [hi, hs, h1, if_true]

theorem marksNext_CLEAR {a : Nat} {i : Instr} {st : AbsSt} (hi : md.code[a]? = some i) (hs : hm[a]? = some (some st))
    (h1 : i.op = .CLEAR_STACK) : marksNext md hm a = [] := by
  unfold marksNext; simp [hi, hs, h1]

/-- the fall-through edge `a → a + 1` -/
theorem edge_next {a : Nat} {i : Instr} (hi : md.code[a]? = some i) (hsame : sameFn (funcStarts md) a (a + 1) = true)
    (hm' : mAt hm (a + 1) (marksNext md hm a) = true) : EdgeOk md hm a (a + 1) := by
  refine ⟨hsame, mAt_marksAt hm', ?_⟩
  rw [intRun_succ md a i hi]
  by_cases h : i.op = .INT
  · exact Or.inr ⟨rfl, i, hi, h⟩
  · exact Or.inl (by simp [h])

/-- every handler address the exception table can return is a handler entry the height map reached -/
theorem handler_entry (hf : flowOk md hm = true) {a hd : Nat} (h : excHandler md.exctab md.excCount a = some hd) :
    handlerEntry md hd = true ∧ ∃ st, hm[hd]? = some (some st) := by
  have hk := (flowOk_spec hf).2.1
  unfold handlersOk at hk
  unfold excHandler at h
  split at h
  · rename_i idx hsr
    obtain ⟨hlt, e1, e2, he1, _, _, _⟩ := excSearch_sound _ _ _ _ hsr
    rw [he1] at h
    simp only [Option.map_some, Option.some.injEq] at h
    have hmem : e1 ∈ md.exctab.toList.take md.excCount := by
      have : (md.exctab.toList.take md.excCount)[idx]? = some e1 := by
        rw [List.getElem?_take]; simp [hlt, he1]
      exact List.mem_of_getElem? this
    have := (List.all_eq_true.mp hk) e1 hmem
    simp only [Bool.and_eq_true] at this
    rw [h] at this
    obtain ⟨st, e, _⟩ := hm_some this.2
    exact ⟨this.1, st, e⟩
  · cases h

/-- the generic shape of one step inside an activation: if the handler of the fetched instruction keeps `pp` and the stack size,
leaves the running state only by raising (with `ip` still behind the faulting instruction) or stopping, and when it completes the
machine is at a recorded height in the same function, then the step's outcome is `Succ` -/
theorem succ_generic (hf : flowOk md hm = true) (orc : Oracle) (vm vm' : Vm) (i : Instr)
    (hi : md.code[vm.ip]? = some i) (hstep : (step md orc).run vm = .ok ((), vm'))
    (hexec : ∀ s2, (exec md i orc).run { vm with ip := vm.ip + 1 } = .ok ((), s2) →
      s2.pp = vm.pp ∧ s2.stackSize = vm.stackSize ∧ (s2.running = 1 ∨ s2.running = 2 ∨ s2.running = 3) ∧
      (s2.running = 2 → s2.ip = vm.ip + 1) ∧
      (s2.running = 1 → AtHeight md hm s2 ∧ EdgeOk md hm vm.ip s2.ip)) :
    Succ md hm vm vm' := by
  obtain ⟨s2, he, hcase⟩ := step_exec md orc vm vm' i hi hstep
  obtain ⟨a1, a2, a3, a4, a5⟩ := hexec s2 he
  rcases hcase with ⟨hne, rfl⟩ | ⟨h2, hd, hh, rfl⟩
  · refine ⟨a1, a2, ?_⟩
    rcases a3 with a3 | a3 | a3
    · exact Or.inl (a5 a3)
    · exact absurd a3 hne
    · exact Or.inr (Or.inr a3)
  · refine ⟨a1, a2, Or.inr (Or.inl ?_)⟩
    have hip : s2.ip - 1 = vm.ip := by rw [a4 h2]; omega
    rw [hip] at hh
    obtain ⟨k1, k2⟩ := handler_entry hf hh
    exact ⟨⟨rfl, k1, k2⟩, Or.inr hh⟩

end
end Never.Ver
