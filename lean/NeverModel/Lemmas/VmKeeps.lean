import NeverModel.Lemmas.VmExec
import NeverModel.Lemmas.FreeInv
import NeverModel.Model.Verify
/-! Three things the handlers keep, each `Rel` of a `Frame` relation: the instruction pointer and the run state (`KeepsIp`), the size of
the stack array (`KeepsStk`), the heap's bookkeeping invariant (`KF`).  For every handler outside the nine control handlers all
three are instances of `exec_kept`. -/
namespace Never.Vm
open Never Never.Num Never.Ver

variable {α : Type}

abbrev RunOk (r0 r1 : Nat) : Prop := r1 = r0 ∨ r1 = 2 ∨ r1 = 3

/-- a computation that does not touch `ip` and leaves `running` as it was, or raises (2), or stops in VM_ERROR (3) -/
def KeepsIp {α} (f : M α) : Prop :=
  ∀ vm a vm', f.run vm = .ok (a, vm') → vm'.ip = vm.ip ∧ RunOk vm.running vm'.running

def SameIp (vm vm' : Vm) : Prop := vm'.ip = vm.ip ∧ RunOk vm.running vm'.running

instance : Frame SameIp where
  refl _ := ⟨rfl, .inl rfl⟩
  trans h1 h2 := ⟨h2.1.trans h1.1, by have := h1.2; have := h2.2; unfold RunOk at *; omega⟩
  out _ _ := ⟨rfl, .inl rfl⟩
  line _ _ := ⟨rfl, .inl rfl⟩
  stop _ _ _ h := ⟨rfl, .inr h⟩
  alloc _ _ _ _ _ := ⟨rfl, .inl rfl⟩
  store _ _ _ _ := ⟨rfl, .inl rfl⟩
instance : WrFrame SameIp := ⟨fun _ _ _ => ⟨rfl, .inl rfl⟩⟩
instance : SpFrame SameIp := ⟨fun _ _ => ⟨rfl, .inl rfl⟩⟩

theorem kip_getArrElem (a i : Nat) : KeepsIp (getArrElem a i) := rel_getArrElem (R := SameIp) a i

theorem KeepsIp.of_rel {f : M α} (h : Rel SameIp f) : KeepsIp f := h

macro "kip" : tactic => `(tactic| first | (refine KeepsIp.of_rel ?_; vm_rel))

/-- selects the handler of a concrete opcode inside `exec` and runs the `kip` automation -/
macro "exec_kip" h:ident : tactic => `(tactic|
  (unfold exec
   simp only [$h:ident, binOpOf, unOpOf, convOf, nilCmpOf, strAddOf, arrOpOf, mkArrayElem]
   kip))

/-- a computation that leaves the size of the stack array and the configured stack size alone -/
def KeepsStk {α} (f : M α) : Prop :=
  ∀ vm a vm', f.run vm = .ok (a, vm') → vm'.stack.size = vm.stack.size ∧ vm'.stackSize = vm.stackSize

def SameStk (vm vm' : Vm) : Prop := vm'.stack.size = vm.stack.size ∧ vm'.stackSize = vm.stackSize

instance : Frame SameStk where
  refl _ := ⟨rfl, rfl⟩
  trans h1 h2 := ⟨h2.1.trans h1.1, h2.2.trans h1.2⟩
  out _ _ := ⟨rfl, rfl⟩
  line _ _ := ⟨rfl, rfl⟩
  stop _ _ _ _ := ⟨rfl, rfl⟩
  alloc _ _ _ _ _ := ⟨rfl, rfl⟩
  store _ _ _ _ := ⟨rfl, rfl⟩
instance : WrFrame SameStk := ⟨fun _ _ _ => ⟨Array.size_setIfInBounds .., rfl⟩⟩
instance : SpFrame SameStk := ⟨fun _ _ => ⟨rfl, rfl⟩⟩
instance : IpFrame SameStk := ⟨fun _ _ => ⟨rfl, rfl⟩⟩

theorem kst_getArrElem (a i : Nat) : KeepsStk (getArrElem a i) := rel_getArrElem (R := SameStk) a i

theorem KeepsStk.of_rel {f : M α} (h : Rel SameStk f) : KeepsStk f := h

macro "kst" : tactic => `(tactic| first | (refine KeepsStk.of_rel ?_; vm_rel))

/-- selects the handler of a concrete opcode inside `exec` and runs the `kst` automation -/
macro "exec_kst" h:ident : tactic => `(tactic|
  (unfold exec
   simp only [$h:ident, binOpOf, unOpOf, convOf, nilCmpOf, strAddOf, arrOpOf, mkArrayElem]
   kst))

/-- `f` never takes the object out of a cell and, provided the cell `t` (if any) holds an object when `f` starts, keeps `FreeInv`.
The proviso is what a raw `setObj a` needs (a store into a FREE cell would put an object on the free chain); every handler
establishes it just before: it has read the object at `a` or allocated `a`. -/
def KF {α} (t : Option Nat) (f : M α) : Prop :=
  ∀ vm b vm', f.run vm = .ok (b, vm') →
    AliveMono vm vm' ∧ ((∀ a, t = some a → Alive vm a) → FreeInv vm.gc → FreeInv vm'.gc)

def KeepsFree (vm vm' : Vm) : Prop := FreeInv vm.gc → FreeInv vm'.gc

instance : Frame KeepsFree where
  refl _ := id
  trans h1 h2 := h2 ∘ h1
  out _ _ := id
  line _ _ := id
  stop _ _ _ _ := id
  alloc _ _ _ _ h hi := (freeInv_alloc hi h).1
  store _ _ _ h hi := freeInv_setObj hi h
instance : WrFrame KeepsFree := ⟨fun _ _ _ => id⟩
instance : SpFrame KeepsFree := ⟨fun _ _ => id⟩
instance : IpFrame KeepsFree := ⟨fun _ _ => id⟩

theorem KF.of_kept {f : M α} (h : Kept [] KeepsFree f) : KF none f :=
  fun vm b vm' hr => ⟨(h vm b vm' hr).1.1, fun _ => (h vm b vm' hr).2 fun _ ha => nomatch ha⟩

theorem KF.of_rel {f : M α} (h : Rel (Both KeepsFree Stable) f) : KF none f := KF.of_kept (Kept.of_rel h)

macro "kf" : tactic => `(tactic| first | (refine KF.of_kept ?_; vm_kept))

/-- selects the handler of a concrete opcode inside `exec` and runs the `kf` automation -/
macro "exec_kf" h:ident : tactic => `(tactic|
  (unfold exec
   simp only [$h:ident, binOpOf, unOpOf, convOf, nilCmpOf, strAddOf, arrOpOf, mkArrayElem]
   kf))

/-- a raw store into cell `a`, which holds an object -/
theorem kf_setObj (a : Nat) (o : Obj) : KF (some a) (setObj a o) := fun vm b vm' hr =>
  have h := Kept.setObj (R := KeepsFree) o (List.mem_singleton_self a) vm b vm' hr
  ⟨h.1.1, fun ht => h.2 fun c hc => .inl (ht c (by rw [List.mem_singleton.mp hc]))⟩

theorem kf_objOf (a : Nat) : KF none (objOf a) := KF.of_rel (rel_objOf a)
theorem kf_getLong (a : Nat) : KF none (getLong a) := KF.of_rel (rel_getLong a)
theorem kf_getFloat (a : Nat) : KF none (getFloat a) := KF.of_rel (rel_getFloat a)
theorem kf_getDouble (a : Nat) : KF none (getDouble a) := KF.of_rel (rel_getDouble a)
theorem kf_getChar (a : Nat) : KF none (getChar a) := KF.of_rel (rel_getChar a)
theorem kf_getStr (a : Nat) : KF none (getStr a) := KF.of_rel (rel_getStr a)
theorem kf_getVecObj (a : Nat) : KF none (getVecObj a) := KF.of_rel (rel_getVecObj a)
theorem kf_getArrObj (a : Nat) : KF none (getArrObj a) := KF.of_rel (rel_getArrObj a)
theorem kf_getFunc (a : Nat) : KF none (getFunc a) := KF.of_rel (rel_getFunc a)
theorem kf_getCPtr (a : Nat) : KF none (getCPtr a) := KF.of_rel (rel_getCPtr a)
theorem kf_getArrElem (a i : Nat) : KF none (getArrElem a i) := KF.of_rel (rel_getArrElem a i)

/-- the instructions of the verifier's effect table, `JUMPZ` apart, are not control instructions -/
theorem table_not_control (ins : Instr) (p q : Nat) (h : simpleEffect ins = some (p, q)) (hj : ins.op ≠ .JUMPZ) : isControl ins.op = false := by
  cases hc : isControl ins.op with
  | false => rfl
  | true =>
    unfold isControl at hc
    split at hc
    all_goals first
      | contradiction
      | (rename_i hop; simp [simpleEffect, hop, binOpOf, unOpOf, convOf, nilCmpOf, strAddOf, arrOpOf, mkArrayElem] at h)

/-- every handler of the effect table except `JUMPZ` leaves `ip` alone and leaves the running state only by raising or stopping -/
theorem exec_keeps_ip (md : Module) (ins : Instr) (orc : Oracle) (p q : Nat) (h : simpleEffect ins = some (p, q))
    (hj : ins.op ≠ .JUMPZ) : KeepsIp (exec md ins orc) :=
  (exec_kept (R := SameIp) md ins orc (table_not_control ins p q h hj)).rel

/-- every handler of the effect table keeps the heap's bookkeeping invariant and frees no cell -/
theorem exec_kf_table (md : Module) (ins : Instr) (orc : Oracle) (p q : Nat) (h : simpleEffect ins = some (p, q)) :
    KF none (exec md ins orc) := by
  by_cases hj : ins.op = .JUMPZ
  · exact KF.of_rel (exec_jumpz_rel md ins orc hj)
  · exact KF.of_kept (exec_kept md ins orc (table_not_control ins p q h hj))

end Never.Vm
