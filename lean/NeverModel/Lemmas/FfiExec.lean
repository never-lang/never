import NeverModel.Lemmas.FfiRoundtrip
/-! the phase logic of `vm_execute_func_ffi`: signature parse, the "prepare values" loop with
its `prep_vals` flag, the decision to call -/
namespace Never.Ffi

/-- the value `prep_vals` has after the "prepare values" loop, as the C code computes it
(since 7f404f9): a non-nil record argument ORs in the result of its walk, a nil string / nil
record sets it; it never goes down -/
def prepFinal : Bool → FVals → Bool
  | prep, .nil => prep
  | prep, .cons (.record vs) rest => prepFinal (prep || !NilFreeL vs) rest
  | prep, .cons v rest => prepFinal (if NilFree v then prep else true) rest

/-- the flag is set exactly when it was set before or some operand holds a nil -/
theorem prepFinal_eq : (prep : Bool) → (stack : FVals) → prepFinal prep stack = (prep || !NilFreeL stack)
  | prep, .nil => by simp [prepFinal, NilFreeL]
  | prep, .cons v vs => by
    cases v <;> simp only [prepFinal, NilFreeL, NilFree, prepFinal_eq _ vs]
    all_goals cases prep <;> simp
    all_goals (rename_i q; cases q <;> simp)

/-- every record parameter fits `unsigned int` offsets -/
def FitsL : FTys → Prop
  | .nil => True
  | .cons t ts => cSize t < 2 ^ 32 ∧ FitsL ts

/-- what `param_values[i]` must be for parameter type `t`, operand `v`; `tail` is the descriptor
stream after this parameter's descriptor -/
def ArgOk (t : FTy) (v : FVal) (a : Arg) (tail : List Desc) : Prop :=
  match t, v with
  | .prim p, v => ∃ isNil, scalarArg p v = some (a, isNil)
  | .record fs, .record inner =>
    ∃ buf, a = .struct buf ∧ buf.size = cSize (.record fs) ∧
      (NilFreeL inner = true →
        ∃ r', newLoop fs fs.length ((emitList fs).1 ++ tail) buf 0#32 = some r' ∧ r'.vals = inner ∧
          r'.trace = cLeaves (.record fs) 0)
  | .record _, _ => True

def ArgsOk : FTys → FVals → List Arg → List Desc → Prop
  | .nil, .nil, [], _ => True
  | .cons t ts, .cons v vs, a :: as, rest => ArgOk t v a ((emitList ts).1 ++ rest) ∧ ArgsOk ts vs as rest
  | _, _, _, _ => False

theorem scalarArg_spec (p : Prim) (v : FVal) (hty : HasTy v (.prim p) = true) :
    ∃ a, scalarArg p v = some (a, !NilFree v) := by
  cases p <;> cases v <;> simp only [HasTy, decide_eq_true_eq, Bool.false_eq_true] at hty
  case string.string q => cases q <;> exact ⟨_, rfl⟩
  all_goals exact ⟨_, rfl⟩

theorem prepFinal_scalar (v : FVal) (prep : Bool) (rest : FVals) :
    prepFinal prep (.cons v rest) = prepFinal (if (!NilFree v) = true then true else prep) rest := by
  rw [prepFinal_eq, prepFinal_eq, NilFreeL]
  cases NilFree v <;> cases prep <;> rfl

theorem Buf.zero_size (n : Nat) : (Buf.zero n).size = n := rfl

/-- packing a record into a fresh zeroed buffer of its size, and unpacking it again when it holds no nil -/
theorem walk_top (fs : FTys) (vs : FVals) (rest : List Desc) (hty : HasTys vs fs = true)
    (hfit : cSize (.record fs) < 2 ^ 32) :
    ∃ r, valueLoop fs fs.length vs ((emitList fs).1 ++ rest) (Buf.zero (cSize (.record fs))) 0#32 = some r ∧
      r.ret = !NilFreeL vs ∧ r.code = rest ∧ r.buf.size = cSize (.record fs) ∧
      (NilFreeL vs = true → r.trace = cLeaves (.record fs) 0 ∧
        ∃ r', newLoop fs fs.length ((emitList fs).1 ++ rest) r.buf 0#32 = some r' ∧ r'.vals = vs ∧
          r'.code = rest ∧ r'.trace = cLeaves (.record fs) 0) := by
  have hb : 0 + cEnd fs 0 ≤ (Buf.zero (cSize (.record fs))).size := by
    have := cEnd_le_cSize fs
    simp only [Buf.zero_size]
    omega
  obtain ⟨r, hr, s⟩ := valueLoop_spec fs rest vs hty 0 0 _ 0#32 (by simp) (Nat.dvd_zero _) hb hfit
  refine ⟨r, hr, s.ret, s.code, s.size, fun hnf => ⟨by simpa [cLeaves] using s.trace hnf, ?_⟩⟩
  obtain ⟨r', hr', e1, e2, _, e4⟩ := newLoop_spec fs rest vs hty hnf 0 0 _ 0#32 (by simp) (Nat.dvd_zero _) hb hfit
    r hr r.buf s.size (fun _ _ _ => rfl)
  exact ⟨r', hr', e1, e2, by simpa [cLeaves] using e4⟩

theorem prepValues_spec : (ps : FTys) → (stack : FVals) → (hty : HasTys stack ps = true) →
    (hfit : FitsL ps) → (rest : List Desc) → (prep : Bool) →
    ∃ pr, prepValues ps ps.length stack ((emitList ps).1 ++ rest) prep = some pr ∧
      pr.prep = prepFinal prep stack ∧ pr.code = rest ∧ ArgsOk ps stack pr.args rest
  | .nil, stack, hty, _, rest, prep => by
    cases stack <;> simp only [HasTys, Bool.false_eq_true] at hty
    exact ⟨⟨prep, [], rest⟩, by simp [FTys.length, prepValues, emitList], by simp [prepFinal], rfl, by simp [ArgsOk]⟩
  | .cons t ts, stack, hty, hfit, rest, prep => by
    cases stack with
    | nil => simp [HasTys] at hty
    | cons v vs =>
      simp only [HasTys, Bool.and_eq_true] at hty
      rw [emitList_cons, List.append_assoc]
      cases t with
      | prim p =>
        obtain ⟨a, ha⟩ := scalarArg_spec p v hty.1
        obtain ⟨pr, hpr, h1, h2, h3⟩ := prepValues_spec ts vs hty.2 hfit.2 rest
          (if (!NilFree v) = true then true else prep)
        simp only [emitParam, List.cons_append, List.nil_append, FTys.length, prepValues, ha, hpr]
        refine ⟨_, rfl, ?_, h2, ?_⟩
        · rw [h1, prepFinal_scalar v]
        · exact ⟨⟨_, ha⟩, h3⟩
      | record fs =>
        rw [emitParam_record]
        cases v with
        | record inner =>
          have hty1 : HasTys inner fs = true := by simpa [HasTy] using hty.1
          obtain ⟨r1, hr1, hret, hcode, hsize, hnew⟩ := walk_top fs inner ((emitList ts).1 ++ rest) hty1 hfit.1
          obtain ⟨pr, hpr, h1, h2, h3⟩ := prepValues_spec ts vs hty.2 hfit.2 rest (prep || r1.ret)
          simp only [List.cons_append, FTys.length, prepValues, hr1, hcode, hpr]
          refine ⟨_, rfl, ?_, h2, ⟨r1.buf, rfl, hsize, fun hnf => ?_⟩, h3⟩
          · rw [h1, hret]; simp [prepFinal]
          · obtain ⟨_, r', hr', e1, _, e4⟩ := hnew hnf
            exact ⟨r', hr', e1, e4⟩
        | nilrec =>
          obtain ⟨pr, hpr, h1, h2, h3⟩ := prepValues_spec ts vs hty.2 hfit.2 rest true
          have h0 : (1 + (emitList fs).1.length = 0) = False := by simp
          have hd : List.drop (1 + (emitList fs).1.length - 1) ((emitList fs).1 ++ ((emitList ts).1 ++ rest))
              = (emitList ts).1 ++ rest := by simp
          simp only [List.cons_append, FTys.length, prepValues, h0, if_false, hd, hpr]
          refine ⟨_, rfl, ?_, h2, ?_⟩
          · rw [h1]; simp [prepFinal, NilFree]
          · exact ⟨trivial, h3⟩
        | _ => simp [HasTy] at hty

/-! ### libffi accepts every non-empty struct -/
mutual
theorem cSize_pos : (t : FTy) → (h : WfTy t = true) → 0 < cSize t
  | .prim p, _ => by cases p <;> simp [cSize, primSize]
  | .record fs, h => by
    simp only [WfTy, Bool.and_eq_true, bne_iff_ne, ne_eq] at h
    have h1 := cEnd_pos fs h.2 h.1 0
    have h2 := cEnd_le_cSize fs
    omega
theorem cEnd_pos : (fs : FTys) → (h : WfTys fs = true) → (hne : ¬fs.length = 0) → (rel : Nat) →
    rel < cEnd fs rel
  | .nil, _, hne, _ => by simp [FTys.length] at hne
  | .cons t ts, h, _, rel => by
    simp only [WfTys, Bool.and_eq_true] at h
    simp only [cEnd]
    have h1 := cSize_pos t h.1
    have h2 := cEnd_ge ts (roundUp rel (cAlign t) + cSize t)
    have h3 := roundUp_ge rel (cAlign t) (cAlign_isAl t).pos
    omega
end

mutual
theorem prepOk_of_wf : (t : FTy) → (h : WfTy t = true) → prepOk t = true
  | .prim _, _ => by simp [prepOk]
  | .record fs, h => by
    have hp := cSize_pos (.record fs) h
    simp only [WfTy, Bool.and_eq_true] at h
    simp only [prepOk, Bool.and_eq_true, bne_iff_ne, ne_eq]
    exact ⟨by omega, prepOkF_of_wf fs h.2⟩
theorem prepOkF_of_wf : (fs : FTys) → (h : WfTys fs = true) → prepOkF fs = true
  | .nil, _ => by simp [prepOkF]
  | .cons t ts, h => by
    simp only [WfTys, Bool.and_eq_true] at h
    simp only [prepOkF, Bool.and_eq_true]
    exact ⟨prepOk_of_wf t h.1, prepOkF_of_wf ts h.2⟩
end

def WfRet : RetTy → Bool
  | .void => true
  | .ty t => WfTy t

/-! ### phase 1 reads back the declared signature -/
theorem parseSig_emit (ps : FTys) (r : RetTy) (tail : List Desc) :
    parseSig ps.length (emitSig ps r ++ tail) = some (ps, r, .other :: tail) := by
  have e : emitSig ps r ++ tail = (emitList ps).1 ++ (emitRet r ++ .other :: tail) := by
    simp [emitSig]
  have h1 := recordType_emitList ps (emitRet r ++ .other :: tail) (emitSig ps r ++ tail).length
    (by rw [e, List.length_append]; omega)
  rw [e] at h1 ⊢
  simp only [parseSig, h1]
  cases r with
  | void => simp [emitRet]
  | ty t =>
    cases t with
    | prim p => simp [emitRet, emitParam]
    | record fs =>
      simp only [emitRet]
      rw [emitParam_record]
      simp only [List.cons_append]
      rw [recordType_emitList fs (.other :: tail) _ (by rw [List.length_append]; omega)]

/-- `vm_execute_func_ffi` on the descriptor the emitter wrote for `(ps) -> r`, operands `stack`
of the declared types: every decision it takes -/
theorem ffiExec_spec (ps : FTys) (r : RetTy) (stack : FVals) (tail : List Desc) (libOk symOk : Bool)
    (hwf : WfTys ps = true) (hwr : WfRet r = true) (hty : HasTys stack ps = true) (hfit : FitsL ps) :
    ∃ pr, prepValues ps ps.length stack (emitSig ps r ++ tail) false = some pr ∧
      pr.code = emitRet r ++ .other :: tail ∧ ArgsOk ps stack pr.args (emitRet r ++ .other :: tail) ∧
      ffiExec ps.length (emitSig ps r ++ tail) stack libOk symOk =
        if prepFinal false stack then .ffiFail .values
        else if !libOk then .ffiFail .library
        else if !symOk then .ffiFail .symbol
        else .call pr.args r (emitRet r ++ .other :: tail) := by
  have e : emitSig ps r ++ tail = (emitList ps).1 ++ (emitRet r ++ .other :: tail) := by
    simp [emitSig]
  obtain ⟨pr, hpr, h1, h2, h3⟩ := prepValues_spec ps stack hty hfit (emitRet r ++ .other :: tail) false
  have hok : (prepOkF ps && retOk r) = true := by
    rw [prepOkF_of_wf ps hwf]
    cases r with
    | void => rfl
    | ty t => simpa [retOk] using prepOk_of_wf t hwr
  rw [← e] at hpr
  refine ⟨pr, hpr, h2, h3, ?_⟩
  simp only [ffiExec, parseSig_emit, hok, Bool.not_true, Bool.false_eq_true, if_false, hpr, h1, h2]

/-! ### the `prep_vals` flag -/

theorem prepFinal_nilfree (stack : FVals) (h : NilFreeL stack = true) : prepFinal false stack = false := by
  simp [prepFinal_eq, h]

/-! ### top-level statements (used by Props/C17) -/

theorem align32_zero (fs : FTys) : align32 0#32 (BitVec.ofNat 32 (cAlignF fs)) = 0#32 := by
  apply BitVec.eq_of_toNat_eq
  have h0 : roundUp 0 (cAlignF fs) = 0 := roundUp_of_dvd 0 _ (cAlignF_isAl fs).pos (Nat.dvd_zero _)
  rw [align32_toNat _ _ (cAlignF_isAl fs) (by simp [h0])]
  simp [h0]

theorem pack_unpack_top (fs : FTys) (vs : FVals) (rest : List Desc)
    (hty : HasTys vs fs = true) (hnf : NilFreeL vs = true) (hfit : cSize (.record fs) < 2 ^ 32) :
    ∃ r r', valueLoop fs fs.length vs ((emitList fs).1 ++ rest) (Buf.zero (cSize (.record fs))) 0#32 = some r ∧
      r.trace = cLeaves (.record fs) 0 ∧ r.ret = false ∧ r.code = rest ∧
      r.buf.size = cSize (.record fs) ∧
      recordNew fs fs.length ((emitList fs).1 ++ rest) r.buf 0#32 = some r' ∧
      r'.val = .record vs ∧ r'.trace = cLeaves (.record fs) 0 ∧
      r'.off.toNat = cSize (.record fs) ∧ r'.code = rest := by
  obtain ⟨r, hr, hret, hcode, hsize, hnew⟩ := walk_top fs vs rest hty hfit
  obtain ⟨htr, r', hr', e1, e2, e4⟩ := hnew hnf
  refine ⟨r, ⟨.record r'.vals, r'.code, add32 0#32 (cSize (.record fs)), r'.trace⟩, hr,
    htr, by simp [hret, hnf], hcode, hsize, ?_, by simp [e1], e4, ?_, e2⟩
  · simp only [recordNew, align32_zero, hr']
  · simp [add32]; omega

/-- full strength: on the emitted descriptor, with operands of the declared types, a nil string /
nil record anywhere among the operands (top level or nested) stops the call with `ffi_fail`, and
without any the call is made -/
theorem exec_full (ps : FTys) (r : RetTy) (stack : FVals) (tail : List Desc)
    (hwf : WfTys ps = true) (hwr : WfRet r = true) (hty : HasTys stack ps = true) (hfit : FitsL ps) :
    (NilFreeL stack = false →
      ffiExec ps.length (emitSig ps r ++ tail) stack true true = .ffiFail .values) ∧
    (NilFreeL stack = true →
      ∃ args, ArgsOk ps stack args (emitRet r ++ .other :: tail) ∧
        ffiExec ps.length (emitSig ps r ++ tail) stack true true
          = .call args r (emitRet r ++ .other :: tail)) := by
  obtain ⟨pr, _, _, hok, hx⟩ := ffiExec_spec ps r stack tail true true hwf hwr hty hfit
  constructor
  · intro h; rw [hx]; simp [prepFinal_eq, h]
  · intro h; exact ⟨pr.args, hok, by rw [hx]; simp [prepFinal_eq, h]⟩

def FVals.append : FVals → FVals → FVals
  | .nil, ys => ys
  | .cons x xs, ys => .cons x (xs.append ys)

/-- an operand holding a nil, at any position, makes the operand list not nil-free -/
theorem nilFreeL_append_cons : (pre : FVals) → (v : FVal) → (post : FVals) → (h : NilFree v = false) →
    NilFreeL (pre.append (.cons v post)) = false
  | .nil, v, post, h => by simp [FVals.append, NilFreeL, h]
  | .cons x pre, v, post, h => by
    simp [FVals.append, NilFreeL, nilFreeL_append_cons pre v post h]

end Never.Ffi
