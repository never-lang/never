import NeverModel.Lemmas.VmIpSound
import NeverModel.Lemmas.Frame
/-! the handlers of the frame opcodes of M-VM (JUMP, MARK, CALL, SLIDE, CLEAR_STACK, RET, RETHROW, HALT, UNHANDLED_EXCEPTION) expressed by
the pure frame operations of Model/Vm.lean, their register effects, the decomposition of one `step` into fetch / handler /
exception dispatch, and what all of these keep: every relation closed under stack stores, register changes and collections
(`RegFrame`, `exec_control`, `exec_rel`, `step_rel`) -/
namespace Never.Vm
open Never Never.Num

theorem liftE_run {α} (r : Except Stop α) (vm : Vm) (a : α) (vm' : Vm) (h : (liftE r : M α).run vm = .ok (a, vm')) :
    r = .ok a ∧ vm' = vm := by
  cases r with
  | error e => cases h
  | ok x => cases h; exact ⟨rfl, rfl⟩

theorem crash_run {α} (w : String) (vm : Vm) (a : α) (vm' : Vm) : ¬ ((crash w : M α).run vm = .ok (a, vm')) :=
  fun h => by cases h

theorem exitVm_run {α} (w : String) (o : List UInt8) (vm : Vm) (a : α) (vm' : Vm) : ¬ ((exitVm w o : M α).run vm = .ok (a, vm')) :=
  fun h => by cases h

/-- **one `step` = fetch, `ip++`, handler, exception dispatch.**  A completed step ran the handler of the fetched instruction on
the machine with `ip` advanced; if the handler left `running = 2` the machine continues at the handler address the exception
table gives for the faulting address, otherwise the handler's final state is the step's. -/
theorem step_exec (md : Module) (orc : Oracle) (vm vm' : Vm) (ins : Instr)
    (hf : md.code[vm.ip]? = some ins) (h : (step md orc).run vm = .ok ((), vm')) :
    ∃ s2, (exec md ins orc).run { vm with ip := vm.ip + 1 } = .ok ((), s2) ∧
      ((s2.running ≠ 2 ∧ vm' = s2) ∨
       (s2.running = 2 ∧ ∃ hd, excHandler md.exctab md.excCount (s2.ip - 1) = some hd ∧ vm' = { s2 with ip := hd, running := 1 })) := by
  unfold step at h
  obtain ⟨v0, s0, h0, hA⟩ := (run_bind_ok _ _ _ _ _).mp h
  obtain ⟨e0, e0'⟩ := get_run _ _ _ h0
  rw [e0, e0'] at hA
  rw [hf] at hA
  dsimp only at hA
  obtain ⟨u1, s1, h1, hB⟩ := (run_bind_ok _ _ _ _ _).mp hA
  have e1 := set_run _ _ _ _ h1
  obtain ⟨u2, s2, h2, hC⟩ := (run_bind_ok _ _ _ _ _).mp hB
  obtain ⟨v3, s3, h3, hD⟩ := (run_bind_ok _ _ _ _ _).mp hC
  obtain ⟨e3, e3'⟩ := get_run _ _ _ h3
  rw [e3, e3'] at hD
  subst e1
  refine ⟨s2, by cases u2; exact h2, ?_⟩
  by_cases hr2 : s2.running = 2
  · have hb : (s2.running == 2) = true := by simp [hr2]
    simp only [hb, if_true] at hD
    split at hD
    · rename_i hnd hh
      have e4 := set_run _ _ _ _ hD
      exact Or.inr ⟨hr2, hnd, hh, e4⟩
    · exact absurd hD (crash_run _ _ _ _)
  · have hb : (s2.running == 2) = false := by simp [hr2]
    simp only [hb] at hD
    obtain ⟨_, e5⟩ := (run_pure_ok _ _ _ _).mp hD
    exact Or.inl ⟨hr2, e5⟩

/-- a completed step fetched an instruction -/
theorem step_fetch {md : Module} {orc : Oracle} {vm vm' : Vm} (h : (step md orc).run vm = .ok ((), vm')) :
    ∃ ins, md.code[vm.ip]? = some ins := by
  cases hi : md.code[vm.ip]? with
  | some i => exact ⟨i, rfl⟩
  | none =>
    unfold step at h
    obtain ⟨v0, s0, h0, hA⟩ := (run_bind_ok _ _ _ _ _).mp h
    obtain ⟨e0, e0'⟩ := get_run _ _ _ h0
    rw [e0, e0', hi] at hA
    cases hA

/-! ### the pure frame operations: register effects of any completed run -/

theorem wrP_regs {vm vm' : Vm} {i : Int} {s : Slot} (h : wrP vm i s = .ok vm') :
    vm'.sp = vm.sp ∧ vm'.fp = vm.fp ∧ vm'.pp = vm.pp ∧ vm'.gp = vm.gp ∧ vm'.ip = vm.ip ∧ vm'.running = vm.running ∧
    vm'.stackSize = vm.stackSize ∧ vm'.exception = vm.exception ∧ vm'.gc = vm.gc ∧ 0 ≤ i ∧ i < vm.stackSize := by
  obtain ⟨⟨h0, h1⟩, rfl⟩ := wrP_ok.mp h
  exact ⟨rfl, rfl, rfl, rfl, rfl, rfl, rfl, rfl, rfl, h0, h1⟩

theorem checkP_regs {vm vm' : Vm} (h : checkP vm = .ok vm') : vm' = vm ∧ vm.sp < vm.stackSize :=
  (checkP_ok.mp h).symm

/-- MARK: `sp` and `fp` become `sp + 5`; `pp`, `ip`, `running` and the stack size are untouched; the five words fit -/
theorem markP_regs {vm vm' : Vm} {ra : Nat} (h : markP vm ra = .ok vm') :
    vm'.sp = vm.sp + 5 ∧ vm'.fp = vm.sp + 5 ∧ vm'.pp = vm.pp ∧ vm'.gp = vm.gp ∧ vm'.ip = vm.ip ∧ vm'.running = vm.running ∧
    vm'.stackSize = vm.stackSize ∧ -1 ≤ vm.sp ∧ vm.sp + 5 < vm.stackSize := by
  obtain ⟨⟨h0, h1⟩, rfl⟩ := markP_ok.mp h
  exact ⟨rfl, rfl, rfl, rfl, rfl, rfl, rfl, h0, h1⟩

/-- one round of the SLIDE loop: the slot `q` above the new top is copied down -/
theorem slideLoopP_succ {q n : Nat} {vm vm' : Vm} (h : slideLoopP q (n + 1) vm = .ok vm') :
    slideLoopP q n { vm with sp := vm.sp + 1, stack := vm.stack.setIfInBounds (vm.sp + 1).toNat (slot vm (vm.sp + 1 + q)) } = .ok vm' := by
  rw [slideLoopP] at h
  obtain ⟨v, hv, h⟩ := bind_eq_ok.mp h
  obtain ⟨v1, h1, h⟩ := bind_eq_ok.mp h
  obtain ⟨_, rfl⟩ := rdP_ok.mp hv
  obtain ⟨_, rfl⟩ := wrP_ok.mp h1
  exact h

theorem slideLoopP_regs (q : Nat) : ∀ (n : Nat) (vm vm' : Vm), slideLoopP q n vm = .ok vm' →
    vm'.sp = vm.sp + n ∧ vm'.fp = vm.fp ∧ vm'.pp = vm.pp ∧ vm'.gp = vm.gp ∧ vm'.ip = vm.ip ∧ vm'.running = vm.running ∧
    vm'.stackSize = vm.stackSize ∧ vm'.gc = vm.gc := by
  intro n
  induction n with
  | zero =>
    intro vm vm' h
    cases h
    exact ⟨(Int.add_zero _).symm, rfl, rfl, rfl, rfl, rfl, rfl, rfl⟩
  | succ n ih =>
    intro vm vm' h
    obtain ⟨a1, a2⟩ := ih _ _ (slideLoopP_succ h)
    exact ⟨by rw [a1]; show vm.sp + 1 + (n : Int) = vm.sp + ((n + 1 : Nat) : Int); omega, a2⟩

/-- SLIDE q m: `sp` drops by `q`; the other registers are untouched -/
theorem slideP_regs {vm vm' : Vm} {q m : Nat} (h : slideP vm q m = .ok vm') :
    vm'.sp = (if q = 0 then vm.sp else vm.sp - q) ∧ vm'.fp = vm.fp ∧ vm'.pp = vm.pp ∧ vm'.gp = vm.gp ∧ vm'.ip = vm.ip ∧
    vm'.running = vm.running ∧ vm'.stackSize = vm.stackSize := by
  unfold slideP at h
  split at h
  · next hq =>
    cases h
    exact ⟨by rw [if_pos (by simpa using hq)], rfl, rfl, rfl, rfl, rfl, rfl⟩
  · next hq =>
    have hq : ¬ q = 0 := by simpa using hq
    rw [if_neg hq]
    split at h
    · cases h
      exact ⟨rfl, rfl, rfl, rfl, rfl, rfl, rfl⟩
    · obtain ⟨a1, a2, a3, a4, a5, a6, a7, _⟩ := slideLoopP_regs q m _ _ h
      exact ⟨by rw [a1]; show vm.sp - q - m + m = vm.sp - q; omega, a2, a3, a4, a5, a6, a7⟩

theorem gcRunPure_regs {vm vm' : Vm} (h : gcRunPure vm = .ok vm') :
    vm'.sp = vm.sp ∧ vm'.fp = vm.fp ∧ vm'.pp = vm.pp ∧ vm'.gp = vm.gp ∧ vm'.ip = vm.ip ∧ vm'.running = vm.running ∧
    vm'.stackSize = vm.stackSize ∧ vm'.stack = vm.stack := by
  unfold gcRunPure at h
  split at h
  · cases h
    exact ⟨rfl, rfl, rfl, rfl, rfl, rfl, rfl, rfl⟩
  · dsimp only at h
    split at h
    · cases h
      exact ⟨rfl, rfl, rfl, rfl, rfl, rfl, rfl, rfl⟩
    · cases h

/-! ### the handlers of the frame opcodes -/

macro "exec_unfold" h:ident " at " l:ident : tactic => `(tactic|
  (unfold exec at $l:ident
   simp only [$h:ident, binOpOf, unOpOf, convOf, nilCmpOf, strAddOf, arrOpOf, mkArrayElem] at $l:ident))

theorem gcRun_run {vm vm' : Vm} {u : Unit} (h : gcRun.run vm = .ok (u, vm')) : gcRunPure vm = .ok vm' := by
  unfold gcRun at h
  obtain ⟨v0, s0, h0, hA⟩ := (run_bind_ok _ _ _ _ _).mp h
  obtain ⟨e0, e0'⟩ := get_run _ _ _ h0
  rw [e0, e0'] at hA
  cases hg : gcRunPure vm with
  | error e => rw [hg] at hA; cases hA
  | ok v1 =>
    rw [hg] at hA
    rw [set_run _ _ _ _ hA]

/-- a handler that reads the machine, applies a pure frame operation and goes on with its result -/
theorem liftGet_run {α} (f : Vm → Except Stop Vm) (k : Vm → M α) {vm vm' : Vm} {a : α}
    (h : (get >>= fun v => liftE (f v) >>= k).run vm = .ok (a, vm')) : ∃ w, f vm = .ok w ∧ (k w).run vm = .ok (a, vm') := by
  obtain ⟨v1, s1, h1, hB⟩ := (run_bind_ok _ _ _ _ _).mp h
  obtain ⟨e1, e1'⟩ := get_run _ _ _ h1
  subst e1 e1'
  obtain ⟨w, s2, h2, hC⟩ := (run_bind_ok _ _ _ _ _).mp hB
  obtain ⟨e2, e2'⟩ := liftE_run _ _ _ _ h2
  subst e2'
  exact ⟨w, e2, hC⟩

theorem set_bind_run {α} {w vm vm' : Vm} {g : M α} {a : α} (h : (set w >>= fun _ => g).run vm = .ok (a, vm')) :
    g.run w = .ok (a, vm') := by
  obtain ⟨u, s1, h1, hB⟩ := (run_bind_ok _ _ _ _ _).mp h
  rw [set_run _ _ _ _ h1] at hB
  exact hB

/-- after `getSp`, which changes nothing, the handler runs on the same machine -/
theorem getSp_bind_run {α} {g : Int → M α} {vm vm' : Vm} {a : α} (h : (getSp >>= g).run vm = .ok (a, vm')) :
    (g vm.sp).run vm = .ok (a, vm') := by
  obtain ⟨sp, s0, h0, hA⟩ := (run_bind_ok _ _ _ _ _).mp h
  obtain ⟨rfl, rfl⟩ := getSp_run _ _ _ h0
  exact hA

/-! The handler of each frame opcode, read off `exec` (by evaluation of the opcode tests). -/

theorem exec_MARK_eq (md : Module) (ins : Instr) (orc : Oracle) (hop : ins.op = .MARK) :
    exec md ins orc = (getSp >>= fun _ => do set (← liftE (markP (← get) ins.w0))) := by
  cases ins; cases hop; rfl

theorem exec_CLEAR_STACK_eq (md : Module) (ins : Instr) (orc : Oracle) (hop : ins.op = .CLEAR_STACK) :
    exec md ins orc = (getSp >>= fun _ => modify fun vm => clearStackP vm ins.w0) := by
  cases ins; cases hop; rfl

theorem exec_SLIDE_eq (md : Module) (ins : Instr) (orc : Oracle) (hop : ins.op = .SLIDE) :
    exec md ins orc = (getSp >>= fun _ => do
      if ins.w0 == 0 then gcRun else
      set (← liftE (slideP (← get) ins.w0 ins.w1))
      gcRun) := by
  cases ins; cases hop; rfl

theorem exec_RET_eq (md : Module) (ins : Instr) (orc : Oracle) (hop : ins.op = .RET ∨ ins.op = .RETHROW) :
    exec md ins orc = (getSp >>= fun _ => do
      set (← liftE (retP (← get)))
      gcRun
      if ins.op == .RETHROW then modify fun vm => { vm with running := 2 }) := by
  cases ins; rcases hop with hop | hop <;> cases hop <;> rfl

theorem exec_CALL_eq (md : Module) (ins : Instr) (orc : Oracle) (hop : ins.op = .CALL) :
    exec md ins orc = (getSp >>= fun sp => do
      let (gp, fip) ← getFunc (← rdAddr sp)
      modify fun vm => callP vm gp fip) := by
  cases ins; cases hop; rfl

theorem exec_HALT_eq (md : Module) (ins : Instr) (orc : Oracle) (hop : ins.op = .HALT) :
    exec md ins orc = (getSp >>= fun _ => modify fun vm => { vm with running := 0 }) := by
  cases ins; cases hop; rfl

theorem exec_JUMP_eq (md : Module) (ins : Instr) (orc : Oracle) (hop : ins.op = .JUMP) :
    exec md ins orc = (getSp >>= fun _ => modify fun vm => { vm with ip := ((vm.ip : Int) + i32 ins.w0).toNat }) := by
  cases ins; cases hop; rfl

/-- UNHANDLED_EXCEPTION prints a message that names the exception and stops the machine in VM_ERROR -/
theorem exec_UNHANDLED_eq (md : Module) (ins : Instr) (orc : Oracle) (hop : ins.op = .UNHANDLED_EXCEPTION) :
    ∃ g : Vm → List UInt8, exec md ins orc =
      (getSp >>= fun _ => get >>= fun v => emit (g v) >>= fun _ => modify fun vm => { vm with running := 3 }) := by
  cases ins; cases hop; exact ⟨_, rfl⟩

theorem exec_MARK (md : Module) (ins : Instr) (orc : Oracle) (hop : ins.op = .MARK) (vm vm' : Vm)
    (h : (exec md ins orc).run vm = .ok ((), vm')) : markP vm ins.w0 = .ok vm' := by
  rw [exec_MARK_eq md ins orc hop] at h
  obtain ⟨w, hw, hk⟩ := liftGet_run (fun v => markP v ins.w0) _ (getSp_bind_run h)
  rw [hw, set_run _ _ _ _ hk]

theorem exec_CLEAR_STACK (md : Module) (ins : Instr) (orc : Oracle) (hop : ins.op = .CLEAR_STACK) (vm vm' : Vm)
    (h : (exec md ins orc).run vm = .ok ((), vm')) : vm' = clearStackP vm ins.w0 := by
  rw [exec_CLEAR_STACK_eq md ins orc hop] at h
  exact modify_run _ _ _ _ (getSp_bind_run h)

theorem exec_SLIDE (md : Module) (ins : Instr) (orc : Oracle) (hop : ins.op = .SLIDE) (vm vm' : Vm)
    (h : (exec md ins orc).run vm = .ok ((), vm')) :
    (ins.w0 = 0 ∧ gcRunPure vm = .ok vm') ∨ (ins.w0 ≠ 0 ∧ ∃ v1, slideP vm ins.w0 ins.w1 = .ok v1 ∧ gcRunPure v1 = .ok vm') := by
  rw [exec_SLIDE_eq md ins orc hop] at h
  have hA := getSp_bind_run h
  split at hA
  · next hq => exact .inl ⟨by simpa using hq, gcRun_run hA⟩
  · next hq =>
    obtain ⟨v1, h1, hk⟩ := liftGet_run (fun v => slideP v ins.w0 ins.w1) _ hA
    exact .inr ⟨by simpa using hq, v1, h1, gcRun_run (set_bind_run hk)⟩

/-- RET and RETHROW: `retP`, a collection, and for RETHROW the exception state -/
theorem exec_RET_run (md : Module) (ins : Instr) (orc : Oracle) (hop : ins.op = .RET ∨ ins.op = .RETHROW) (vm vm' : Vm)
    (h : (exec md ins orc).run vm = .ok ((), vm')) :
    ∃ v1 v2, retP vm = .ok v1 ∧ gcRunPure v1 = .ok v2 ∧ vm' = if ins.op == .RETHROW then { v2 with running := 2 } else v2 := by
  rw [exec_RET_eq md ins orc hop] at h
  obtain ⟨v1, h1, hk⟩ := liftGet_run retP _ (getSp_bind_run h)
  obtain ⟨u2, v2, h2, hC⟩ := (run_bind_ok _ _ _ _ _).mp (set_bind_run hk)
  refine ⟨v1, v2, h1, gcRun_run h2, ?_⟩
  split at hC
  · next hq => rw [if_pos hq]; exact modify_run _ _ _ _ hC
  · next hq => rw [if_neg hq]; exact ((run_pure_ok _ _ _ _).mp hC).2

theorem exec_RET (md : Module) (ins : Instr) (orc : Oracle) (hop : ins.op = .RET) (vm vm' : Vm)
    (h : (exec md ins orc).run vm = .ok ((), vm')) : ∃ v1, retP vm = .ok v1 ∧ gcRunPure v1 = .ok vm' := by
  obtain ⟨v1, v2, hr, hg, e⟩ := exec_RET_run md ins orc (.inl hop) vm vm' h
  rw [hop] at e
  exact ⟨v1, hr, by rw [e]; exact hg⟩

theorem exec_RETHROW (md : Module) (ins : Instr) (orc : Oracle) (hop : ins.op = .RETHROW) (vm vm' : Vm)
    (h : (exec md ins orc).run vm = .ok ((), vm')) : ∃ v1 v2, retP vm = .ok v1 ∧ gcRunPure v1 = .ok v2 ∧ vm' = { v2 with running := 2 } := by
  obtain ⟨v1, v2, hr, hg, e⟩ := exec_RET_run md ins orc (.inr hop) vm vm' h
  rw [hop] at e
  exact ⟨v1, v2, hr, hg, e⟩

/-- CALL: the function object on top of the stack gives the environment and the address; `callP` does the rest -/
theorem exec_CALL (md : Module) (ins : Instr) (orc : Oracle) (hop : ins.op = .CALL) (vm vm' : Vm)
    (h : (exec md ins orc).run vm = .ok ((), vm')) :
    ∃ a env fip, (rdAddr vm.sp).run vm = .ok (a, vm) ∧ (getFunc a).run vm = .ok ((env, fip), vm) ∧ vm' = callP vm env fip := by
  rw [exec_CALL_eq md ins orc hop] at h
  obtain ⟨a, s1, h1, hB⟩ := (run_bind_ok _ _ _ _ _).mp (getSp_bind_run h)
  have e1 := readOnly_rdAddr _ _ _ _ h1
  subst e1
  obtain ⟨p, s2, h2, hC⟩ := (run_bind_ok _ _ _ _ _).mp hB
  obtain ⟨env, fip⟩ := p
  have ro : ReadOnly (getFunc a) := by
    unfold getFunc
    refine ReadOnly.bind (readOnly_objOf a) (fun o => ?_)
    split
    · exact ReadOnly.pure _
    · exact ReadOnly.crash _
  have e2 := ro _ _ _ h2
  subst e2
  exact ⟨a, env, fip, h1, h2, modify_run _ _ _ _ hC⟩

theorem exec_UNHANDLED (md : Module) (ins : Instr) (orc : Oracle) (hop : ins.op = .UNHANDLED_EXCEPTION) (vm vm' : Vm)
    (h : (exec md ins orc).run vm = .ok ((), vm')) : vm'.running = 3 := by
  obtain ⟨g, e⟩ := exec_UNHANDLED_eq md ins orc hop
  rw [e] at h
  obtain ⟨v1, s1, h1, hB⟩ := (run_bind_ok _ _ _ _ _).mp (getSp_bind_run h)
  obtain ⟨u2, s2, h2, hC⟩ := (run_bind_ok _ _ _ _ _).mp hB
  rw [modify_run _ _ _ _ hC]

theorem exec_HALT (md : Module) (ins : Instr) (orc : Oracle) (hop : ins.op = .HALT) (vm vm' : Vm)
    (h : (exec md ins orc).run vm = .ok ((), vm')) : vm' = { vm with running := 0 } := by
  rw [exec_HALT_eq md ins orc hop] at h
  exact modify_run _ _ _ _ (getSp_bind_run h)

theorem exec_JUMP (md : Module) (ins : Instr) (orc : Oracle) (hop : ins.op = .JUMP) (vm vm' : Vm)
    (h : (exec md ins orc).run vm = .ok ((), vm')) : vm' = { vm with ip := ((vm.ip : Int) + i32 ins.w0).toNat } := by
  rw [exec_JUMP_eq md ins orc hop] at h
  exact modify_run _ _ _ _ (getSp_bind_run h)

/-! ### what the nine control handlers keep -/

/-- `R` holds across any change of the registers and the run state, and across the collection at a safe point: with stack
stores (`WrFrame`), all that the control handlers do -/
class RegFrame (R : Vm → Vm → Prop) : Prop where
  regs : ∀ vm sp fp pp gp ip running exception,
    R vm { vm with sp := sp, fp := fp, pp := pp, gp := gp, ip := ip, running := running, exception := exception }
  collect : ∀ vm vm', gcRunPure vm = .ok vm' → R vm vm'

section
variable {R : Vm → Vm → Prop} {vm vm' : Vm}

theorem wrP_rel [WrFrame R] {i : Int} {s : Slot} (h : wrP vm i s = .ok vm') : R vm vm' := by
  obtain ⟨_, rfl⟩ := wrP_ok.mp h
  exact WrFrame.wr vm _ _

variable [RegFrame R]

theorem callP_rel (env fip : Nat) : R vm (callP vm env fip) := by
  unfold callP
  split
  · exact RegFrame.regs vm vm.sp vm.fp vm.pp vm.gp vm.ip 2 8
  · exact RegFrame.regs vm _ vm.fp _ _ _ vm.running vm.exception

variable [Frame R] [WrFrame R]

/-- MARK: `sp` moves, five stores, `fp` moves (the machines in between stay variables: written out, the five nested record
updates are too large a term to compare) -/
theorem markP_rel {ra : Nat} (h : markP vm ra = .ok vm') : R vm vm' := by
  unfold markP at h
  obtain ⟨v0, h0, h⟩ := bind_eq_ok.mp h
  obtain ⟨v1, h1, h⟩ := bind_eq_ok.mp h
  obtain ⟨v2, h2, h⟩ := bind_eq_ok.mp h
  obtain ⟨v3, h3, h⟩ := bind_eq_ok.mp h
  obtain ⟨v4, h4, h⟩ := bind_eq_ok.mp h
  obtain ⟨v5, h5, h⟩ := bind_eq_ok.mp h
  cases h
  obtain ⟨_, rfl⟩ := checkP_ok.mp h0
  exact Frame.trans (RegFrame.regs vm (vm.sp + 5) vm.fp vm.pp vm.gp vm.ip vm.running vm.exception)
    (Frame.trans (wrP_rel h1) (Frame.trans (wrP_rel h2) (Frame.trans (wrP_rel h3) (Frame.trans (wrP_rel h4)
      (Frame.trans (wrP_rel h5) (RegFrame.regs v5 v5.sp (vm.sp + 5) v5.pp v5.gp v5.ip v5.running v5.exception))))))

theorem retP_rel (h : retP vm = .ok vm') : R vm vm' := by
  obtain ⟨_, rfl⟩ := retP_ok.mp h
  exact Frame.trans (WrFrame.wr vm (vm.fp - 4).toNat (slot vm vm.sp)) (RegFrame.regs (R := R) _ _ _ _ _ _ vm.running vm.exception)

theorem slideLoopP_rel (q : Nat) : ∀ (n : Nat) (vm vm' : Vm), slideLoopP q n vm = .ok vm' → R vm vm' := by
  intro n
  induction n with
  | zero => intro vm vm' h; cases h; exact Frame.refl vm
  | succ n ih =>
    intro vm vm' h
    exact Frame.trans (RegFrame.regs vm (vm.sp + 1) vm.fp vm.pp vm.gp vm.ip vm.running vm.exception)
      (Frame.trans (WrFrame.wr _ _ _) (ih _ _ (slideLoopP_succ h)))

theorem slideP_rel {q m : Nat} (h : slideP vm q m = .ok vm') : R vm vm' := by
  unfold slideP at h
  split at h
  · cases h; exact Frame.refl vm
  · split at h
    · cases h; exact RegFrame.regs vm _ vm.fp vm.pp vm.gp vm.ip vm.running vm.exception
    · exact Frame.trans (RegFrame.regs vm _ vm.fp vm.pp vm.gp vm.ip vm.running vm.exception) (slideLoopP_rel q m _ _ h)

/-- **the nine control handlers** keep every relation that holds across stack stores, register changes and collections -/
theorem exec_control (md : Module) (ins : Instr) (orc : Oracle) (hc : isControl ins.op = true) : Rel R (exec md ins orc) := by
  intro vm u vm' h
  cases u
  have : SpFrame R := ⟨fun vm v => RegFrame.regs vm v vm.fp vm.pp vm.gp vm.ip vm.running vm.exception⟩
  have : IpFrame R := ⟨fun vm v => RegFrame.regs vm vm.sp vm.fp vm.pp vm.gp v vm.running vm.exception⟩
  rcases isControl_cases hc with hop | hop | hop | hop | hop | hop | hop | hop | hop
  · exact exec_jumpz_rel md ins orc hop _ _ _ h
  · rw [exec_JUMP md ins orc hop _ _ h]
    exact IpFrame.ip vm _
  · exact markP_rel (exec_MARK md ins orc hop _ _ h)
  · obtain ⟨a, env, fip, _, _, rfl⟩ := exec_CALL md ins orc hop _ _ h
    exact callP_rel env fip
  · rcases exec_SLIDE md ins orc hop _ _ h with ⟨_, hg⟩ | ⟨_, v1, hsl, hg⟩
    · exact RegFrame.collect _ _ hg
    · exact Frame.trans (slideP_rel hsl) (RegFrame.collect _ _ hg)
  · rw [exec_CLEAR_STACK md ins orc hop _ _ h]
    exact RegFrame.regs vm _ _ vm.pp vm.gp vm.ip 1 vm.exception
  · obtain ⟨v1, hr, hg⟩ := exec_RET md ins orc hop _ _ h
    exact Frame.trans (retP_rel hr) (RegFrame.collect _ _ hg)
  · obtain ⟨v1, v2, hr, hg, rfl⟩ := exec_RETHROW md ins orc hop _ _ h
    exact Frame.trans (Frame.trans (retP_rel hr) (RegFrame.collect _ _ hg))
      (RegFrame.regs v2 v2.sp v2.fp v2.pp v2.gp v2.ip 2 v2.exception)
  · rw [exec_HALT md ins orc hop _ _ h]
    exact RegFrame.regs vm vm.sp vm.fp vm.pp vm.gp vm.ip 0 vm.exception

/-- every handler keeps such a relation -/
theorem exec_rel (md : Module) (ins : Instr) (orc : Oracle) : Rel R (exec md ins orc) := by
  have : SpFrame R := ⟨fun vm v => RegFrame.regs vm v vm.fp vm.pp vm.gp vm.ip vm.running vm.exception⟩
  cases hc : isControl ins.op with
  | false => exact (exec_kept md ins orc hc).rel
  | true => exact exec_control md ins orc hc

/-- … and so does every `step`: fetch and `ip++`, the handler, the dispatch of a raised exception to its handler address -/
theorem step_rel (md : Module) (orc : Oracle) : Rel R (step md orc) := by
  intro vm u vm' h
  cases u
  obtain ⟨ins, hi⟩ := step_fetch h
  obtain ⟨s2, he, hcase⟩ := step_exec md orc vm vm' ins hi h
  have h2 := Frame.trans (RegFrame.regs vm vm.sp vm.fp vm.pp vm.gp (vm.ip + 1) vm.running vm.exception)
    (exec_rel (R := R) md ins orc _ _ _ he)
  rcases hcase with ⟨_, rfl⟩ | ⟨_, hd, _, rfl⟩
  · exact h2
  · exact Frame.trans h2 (RegFrame.regs s2 s2.sp s2.fp s2.pp s2.gp hd 1 s2.exception)

end

end Never.Vm
