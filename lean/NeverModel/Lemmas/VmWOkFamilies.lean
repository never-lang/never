import NeverModel.Lemmas.VmWOk
set_option linter.unusedSimpArgs false
set_option linter.unusedVariables false
/-! no wild stack write: the opcode families and the build-ins; what a completed popping loop says about `sp` (`pop*_low`, `WOk.pop*_bind`) -/
namespace Never.Vm
open Never Never.Num

theorem rdSlot_ok_low {vm vm' : Vm} {i : Int} {a : Slot} (h : (rdSlot i).run vm = .ok (a, vm')) : 0 ≤ i := by
  unfold rdSlot at h
  obtain ⟨y, w2, g2, g3⟩ := (run_bind_ok _ _ _ _ _).mp h
  obtain ⟨e2, e2'⟩ := get_run _ _ _ g2
  rw [e2, e2'] at g3
  split at g3
  · exact absurd g3 (by simp [crash, throw, throwThe, MonadExceptOf.throw, StateT.run, StateT.lift, liftM, monadLift, MonadLift.monadLift, Except.bind, Bind.bind])
  · omega

theorem rdAddr_ok_low {vm vm' : Vm} {i : Int} {a : Nat} (h : (rdAddr i).run vm = .ok (a, vm')) : 0 ≤ i := by
  unfold rdAddr rdSlot at h
  obtain ⟨x, w1, g1, _⟩ := (run_bind_ok _ _ _ _ _).mp h
  obtain ⟨y, w2, g2, g3⟩ := (run_bind_ok _ _ _ _ _).mp g1
  obtain ⟨e2, e2'⟩ := get_run _ _ _ g2
  rw [e2, e2'] at g3
  split at g3
  · exact absurd g3 (by simp [crash, throw, throwThe, MonadExceptOf.throw, StateT.run, StateT.lift, liftM, monadLift, MonadLift.monadLift, Except.bind, Bind.bind])
  · omega

/-- `popExts n` / `popInts n` that complete from `sp = s` have read `n` slots inside the array -/
theorem popExts_low (n : Nat) : ∀ (vm vm' : Vm) (l : List Nat), (popExts n).run vm = .ok (some l, vm') → n = 0 ∨ 0 ≤ vm.sp - (n : Int) + 1 := by
  induction n with
  | zero => intro _ _ _ _; exact Or.inl rfl
  | succ n ih =>
    intro vm vm' l h
    right
    unfold popExts at h
    obtain ⟨sp, v0, h0, h⟩ := (run_bind_ok _ _ _ _ _).mp h
    obtain ⟨e0, e0'⟩ := getSp_run _ _ _ h0
    rw [e0, e0'] at h
    obtain ⟨a, v1, h1, h⟩ := (run_bind_ok _ _ _ _ _).mp h
    have hb := rdAddr_ok_low h1
    have e1 := readOnly_rdAddr _ _ _ _ h1
    rw [e1] at h
    obtain ⟨e, v2, h2, h⟩ := (run_bind_ok _ _ _ _ _).mp h
    have e2 := readOnly_getInt _ _ _ _ h2
    rw [e2] at h
    obtain ⟨u, v3, h3, h⟩ := (run_bind_ok _ _ _ _ _).mp h
    obtain ⟨t1, _⟩ := keeps_setSp_run _ _ _ _ h3
    split at h
    · obtain ⟨u2, v4, h4, h⟩ := (run_bind_ok _ _ _ _ _).mp h
      obtain ⟨c, _⟩ := (run_pure_ok _ _ _ _).mp h
      cases c
    · obtain ⟨r2, v4, h4, h⟩ := (run_bind_ok _ _ _ _ _).mp h
      cases r2 with
      | none => obtain ⟨c, _⟩ := (run_pure_ok _ _ _ _).mp h; cases c
      | some rr =>
        rcases ih v3 v4 rr h4 with hz | hz
        · subst hz; omega
        · rw [t1] at hz; omega

theorem popInts_low (n : Nat) : ∀ (vm vm' : Vm) (l : List Int), (popInts n).run vm = .ok (l, vm') → n = 0 ∨ 0 ≤ vm.sp - (n : Int) + 1 := by
  induction n with
  | zero => intro _ _ _ _; exact Or.inl rfl
  | succ n ih =>
    intro vm vm' l h
    right
    unfold popInts at h
    obtain ⟨sp, v0, h0, h⟩ := (run_bind_ok _ _ _ _ _).mp h
    obtain ⟨e0, e0'⟩ := getSp_run _ _ _ h0
    rw [e0, e0'] at h
    obtain ⟨a, v1, h1, h⟩ := (run_bind_ok _ _ _ _ _).mp h
    have hb := rdAddr_ok_low h1
    have e1 := readOnly_rdAddr _ _ _ _ h1
    rw [e1] at h
    obtain ⟨e, v2, h2, h⟩ := (run_bind_ok _ _ _ _ _).mp h
    have e2 := readOnly_getInt _ _ _ _ h2
    rw [e2] at h
    obtain ⟨u, v3, h3, h⟩ := (run_bind_ok _ _ _ _ _).mp h
    obtain ⟨t1, _⟩ := keeps_setSp_run _ _ _ _ h3
    obtain ⟨rest, v4, h4, _⟩ := (run_bind_ok _ _ _ _ _).mp h
    rcases ih v3 v4 rest h4 with hz | hz
    · subst hz; omega
    · rw [t1] at hz; omega

theorem WOk.popExts_bind {β} {N : Nat} {s : Int} {n : Nat} {g : Option (List Nat) → M β}
    (hnone : NoWC (g none)) (hsome : ∀ x, (n = 0 ∨ 0 ≤ s - (n : Int) + 1) → WOk N (s - (n : Int)) (g (some x))) : WOk N s (popExts n >>= g) := by
  intro vm hN hs h
  rcases (run_bind_err _ g vm _).mp h with h1 | ⟨r, vm', h1, h2⟩
  · exact nowc_popExts n vm h1
  · obtain ⟨_, _, a3, a4, _⟩ := popExts_spec n s vm r vm' hs h1
    cases r with
    | none => exact hnone vm' h2
    | some x =>
      have := popExts_low n vm vm' x h1
      rw [hs] at this
      exact hsome x this vm' (by omega) (a4 rfl) h2

theorem WOk.popInts_bind {β} {N : Nat} {s : Int} {n : Nat} {g : List Int → M β}
    (hg : ∀ l, (n = 0 ∨ 0 ≤ s - (n : Int) + 1) → WOk N (s - (n : Int)) (g l)) : WOk N s (popInts n >>= g) := by
  intro vm hN hs h
  rcases (run_bind_err _ g vm _).mp h with h1 | ⟨l, vm', h1, h2⟩
  · exact nowc_popInts n vm h1
  · obtain ⟨a1, _, _, a4⟩ := popInts_mov n s vm l vm' hs h1
    have := popInts_low n vm vm' l h1
    rw [hs] at this
    exact hg l this vm' (by omega) (by omega) h2

theorem wok_execBin (ty : NTy) (bop : BinOp) (N : Nat) (s : Int) (h0 : -1 ≤ s) (h1 : s < N) : WOk N s (execBin ty bop) := by unfold execBin; wok
theorem wok_execUn (ty : NTy) (uop : UnOp) (N : Nat) (s : Int) (h0 : -1 ≤ s) (h1 : s < N) : WOk N s (execUn ty uop) := by unfold execUn; wok
theorem wok_execConv (src dst : NTy) (N : Nat) (s : Int) (h0 : -1 ≤ s) (h1 : s < N) : WOk N s (execConv src dst) := by unfold execConv; wok

/-- a sub-block that keeps `sp`, cannot write wildly, and whose completion establishes a fact (typically: it has read a slot) -/
theorem WOk.fact_bind {α β} {N : Nat} {s : Int} {P : Prop} {f : M α} {g : α → M β} (hk : KeepsSp f) (hf : NoWC f)
    (hp : ∀ vm x vm', vm.sp = s → f.run vm = .ok (x, vm') → P) (hg : ∀ x, P → WOk N s (g x)) : WOk N s (f >>= g) := by
  intro vm hN hs h
  rcases (run_bind_err _ g vm _).mp h with h1 | ⟨x, vm', h1, h2⟩
  · exact hf vm h1
  · obtain ⟨a, b⟩ := hk vm x vm' h1
    exact hg x (hp vm x vm' hs h1) vm' (by omega) (by omega) h2

theorem wok_nilCmp (md : Module) (ins : Instr) (orc : Oracle) (N : Nat) (s : Int) (h0 : -1 ≤ s) (h1 : s < N) (k : Nat) (nl ng : Bool)
    (hb : binOpOf ins.op = none) (hu : unOpOf ins.op = none) (hc : convOf ins.op = none)
    (h : nilCmpOf ins.op = some (k, nl, ng)) : WOk N s (exec md ins orc) := by
  unfold exec
  simp only [hb, hu, hc, h]
  refine WOk.getSp_bind ?_
  cases nl
  · simp only [Bool.false_eq_true, if_false]
    refine WOk.fact_bind (P := 0 ≤ s - 1) (by keeps) (by nowc) ?_ (fun v hp => ?_)
    · intro vm x vm' _ hr
      obtain ⟨v, w1, g1, _⟩ := (run_bind_ok _ _ _ _ _).mp hr
      obtain ⟨a, w2, g2, _⟩ := (run_bind_ok _ _ _ _ _).mp g1
      exact rdSlot_ok_low g2
    · wok
  · simp only [if_true]
    refine WOk.fact_bind (P := 0 ≤ s - 1) (by keeps) (by nowc) ?_ (fun v hp => ?_)
    · intro vm x vm' _ hr
      obtain ⟨v, w1, g1, _⟩ := (run_bind_ok _ _ _ _ _).mp hr
      obtain ⟨a, w2, g2, _⟩ := (run_bind_ok _ _ _ _ _).mp g1
      exact rdSlot_ok_low g2
    · wok

theorem wok_strAdd (md : Module) (ins : Instr) (orc : Oracle) (N : Nat) (s : Int) (h0 : -1 ≤ s) (h1 : s < N) (ty : NTy) (sl : Bool)
    (hb : binOpOf ins.op = none) (hu : unOpOf ins.op = none) (hc : convOf ins.op = none) (hn : nilCmpOf ins.op = none)
    (h : strAddOf ins.op = some (ty, sl)) : WOk N s (exec md ins orc) := by
  unfold exec
  simp only [hb, hu, hc, hn, h]
  wok

theorem wok_arrOp (md : Module) (ins : Instr) (orc : Oracle) (N : Nat) (s : Int) (h0 : -1 ≤ s) (h1 : s < N) (ty : NTy) (kind : Nat)
    (hb : binOpOf ins.op = none) (hu : unOpOf ins.op = none) (hc : convOf ins.op = none) (hn : nilCmpOf ins.op = none)
    (hs : strAddOf ins.op = none)
    (h : arrOpOf ins.op = some (ty, kind)) : WOk N s (exec md ins orc) := by
  unfold exec
  simp only [hb, hu, hc, hn, hs, h]
  refine WOk.getSp_bind ?_
  split <;> wok

theorem wok_mkArray (md : Module) (ins : Instr) (orc : Oracle) (N : Nat) (s : Int) (h0 : -1 ≤ s) (h1 : s < N) (dflt : Obj)
    (hb : binOpOf ins.op = none) (hu : unOpOf ins.op = none) (hc : convOf ins.op = none) (hn : nilCmpOf ins.op = none)
    (hs : strAddOf ins.op = none) (ha : arrOpOf ins.op = none)
    (h : mkArrayElem ins.op = some dflt) : WOk N s (exec md ins orc) := by
  unfold exec
  simp only [hb, hu, hc, hn, hs, ha, h]
  refine WOk.getSp_bind ?_
  refine WOk.popExts_bind (by nowc) (fun exts _ => ?_)
  dsimp only
  wok

/-- the build-ins store their result at `sp` (or `sp − 1`), slots they have read; `read` (id 12) pushes, with `vm_check_stack` before the
store since the `fix:` commit 034394a -/
theorem buildIn_wok (id : Nat) (orc : Oracle) (N : Nat) (s : Int) (h0 : -1 ≤ s) (h1 : s < N) :
    WOk N s (buildIn id orc) := by
  unfold buildIn
  refine WOk.getSp_bind ?_
  by_cases h12 : id = 12
  · have hc : (id == 12) = true := by simp [h12]
    simp only [hc, if_true]
    refine WOk.keeps_bind (by keeps) (WOk.of_nowc (by nowc)) (fun top => ?_)
    try dsimp only
    split
    all_goals first | exact absurd h12 (by decide) | wok
  · have hc : (id == 12) = false := by simpa using h12
    simp only [hc, Bool.false_eq_true, if_false]
    refine WOk.rdAddr_bind (fun top hb => ?_)
    try dsimp only
    split
    all_goals wok

theorem wok_BUILD_IN (md : Module) (ins : Instr) (orc : Oracle) (N : Nat) (s : Int) (h0 : -1 ≤ s) (h1 : s < N)
    (h : ins.op = .BUILD_IN) : WOk N s (exec md ins orc) := by
  unfold exec
  simp only [h, binOpOf, unOpOf, convOf, nilCmpOf, strAddOf, arrOpOf, mkArrayElem]
  refine WOk.getSp_bind ?_
  exact buildIn_wok _ _ _ _ h0 h1

end Never.Vm

