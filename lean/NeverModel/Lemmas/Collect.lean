import NeverModel.Lemmas.MarkSound
import NeverModel.Lemmas.MarkTotal
set_option linter.unusedSimpArgs false
set_option linter.unusedVariables false
/-! the stack scan, the whole mark phase, and "marked = live" at top level -/
namespace Never
open Mem

/-- the addresses the stack scan starts from -/
def rootsOf : List Slot → List Nat
  | [] => []
  | .addr a :: rest => if a > 0 then a :: rootsOf rest else rootsOf rest
  | _ :: rest => rootsOf rest

/-- roots of a collection: ADDR slots of the stack, then the global vector -/
def allRoots (st : List Slot) (gp : Nat) : List Nat := rootsOf st ++ (if gp > 0 then [gp] else [])

/-- a live cell: it holds an object and is reachable from a root -/
def Live (m : Mem) (roots : List Nat) (b : Nat) : Prop :=
  b ≠ 0 ∧ (objAt m b).isSome = true ∧ ∃ r ∈ roots, Path m r b

structure MarkSpec (m m' : Mem) (roots : List Nat) : Prop where
  post : Post m m'
  done : ∀ r ∈ roots, Done m' r
  sound : NewFrom m m' roots

theorem Marks.spec {m m' : Mem} {xs : List Nat} (h : Marks m xs m') : MarkSpec m m' xs := ⟨h.post.1, h.post.2, h.sound⟩

/-- the stack scan is a marking run from the ADDR slots -/
theorem markAccess_marks (f : Nat) : ∀ st m m', markAccess f m st = some m' → Marks m (rootsOf st) m' := by
  intro st
  induction st with
  | nil => intro m m' h; rw [markAccess] at h; cases h; exact .nil _
  | cons s rest ih =>
    intro m m' h
    cases s with
    | addr a =>
      simp only [markAccess] at h
      by_cases ha : a > 0
      · simp only [ha, if_true] at h
        rw [show rootsOf (.addr a :: rest) = a :: rootsOf rest by simp [rootsOf, ha]]
        split at h
        · cases h
        · rename_i c hc
          split at h
          · split at h
            · cases h
            · rename_i m1 h1
              exact ((mark_marks f).1 _ _ _ h1).append (ih _ _ h)
          · rename_i hm
            exact .skip (Or.inr (Or.inr (by rw [getElem?_marked hc]; simpa using hm))) (ih _ _ h)
      · simp only [ha, if_false] at h
        rw [show rootsOf (.addr a :: rest) = rootsOf rest by simp [rootsOf, ha]]
        exact ih _ _ h
    | unknown => exact ih _ _ h
    | ip v => exact ih _ _ h
    | stk v => exact ih _ _ h

theorem slotOk_congr {m m' : Mem} (h : m'.size = m.size) : slotOk m' = slotOk m := by
  funext s
  cases s <;> simp [slotOk, h]

theorem markAccess_total (f : Nat) : ∀ st m, WK m → st.all (slotOk m) = true → 2 * U m + 3 ≤ f →
    (markAccess f m st).isSome = true := by
  intro st
  induction st with
  | nil => intro m _ _ _; simp [markAccess]
  | cons s rest ih =>
    intro m w hs hf
    simp only [List.all_cons, Bool.and_eq_true] at hs
    cases s with
    | addr a =>
      simp only [markAccess]
      by_cases ha : a > 0
      · simp only [ha, if_true]
        have hlt : a < m.size := by simpa [slotOk] using hs.1
        obtain ⟨c, hc⟩ := getElem?_of_lt hlt
        simp only [hc]
        split
        · have h1 := (mark_total_all f).1 m a w (Or.inr hlt) hf
          cases hmk : mark f m a with
          | none => simp [hmk] at h1
          | some m1 =>
            have mono := ((mark_marks f).1 _ _ _ hmk).post.1.mono
            have := U_mono mono
            simp only
            apply ih m1 (w.mono mono) _ (by omega)
            rw [slotOk_congr mono.size]
            exact hs.2
        · exact ih m w hs.2 hf
      · simp only [ha, if_false]; exact ih m w hs.2 hf
    | unknown => simp only [markAccess]; exact ih m w hs.2 hf
    | ip v => simp only [markAccess]; exact ih m w hs.2 hf
    | stk v => simp only [markAccess]; exact ih m w hs.2 hf

/-- the whole mark phase of `gc_run` -/
def markPhase (f : Nat) (m : Mem) (st : List Slot) (gp : Nat) : Option Mem :=
  match markAccess f m st with
  | none => none
  | some m1 => if gp > 0 then mark f m1 gp else some m1

theorem markPhase_spec {f : Nat} {m m' : Mem} {st : List Slot} {gp : Nat}
    (h : markPhase f m st gp = some m') : MarkSpec m m' (allRoots st gp) := by
  unfold markPhase at h
  split at h
  · cases h
  · rename_i m1 h1
    have r := markAccess_marks f _ _ _ h1
    unfold allRoots
    split at h
    · rename_i hg
      rw [if_pos hg]
      exact (r.append ((mark_marks f).1 _ _ _ h)).spec
    · rename_i hg
      cases h
      rw [if_neg hg, List.append_nil]
      exact r.spec

theorem markPhase_total {f : Nat} {m : Mem} {st : List Slot} {gp : Nat}
    (w : WK m) (hs : st.all (slotOk m) = true) (hg : gp < m.size) (hf : 2 * U m + 3 ≤ f) :
    (markPhase f m st gp).isSome = true := by
  unfold markPhase
  have h1 := markAccess_total f st m w hs hf
  cases hma : markAccess f m st with
  | none => simp [hma] at h1
  | some m1 =>
    simp only
    have mono := (markAccess_marks f _ _ _ hma).post.1.mono
    split
    · apply (mark_total_all f).1 m1 gp (w.mono mono) (Or.inr (by rw [mono.size]; exact hg))
      have := U_mono mono
      omega
    · rfl

theorem collect_eq (g : Gc) (st : List Slot) (gp : Nat) :
    g.collect st gp = (markPhase g.fuel g.mem st gp).map (fun m => ({ g with mem := m } : Gc).sweep) := by
  unfold Gc.collect markPhase
  cases markAccess g.fuel g.mem st with
  | none => rfl
  | some m =>
    simp only
    by_cases hg : gp > 0
    · simp only [hg, if_true]; cases mark g.fuel m gp <;> rfl
    · simp only [hg, if_false]; rfl

theorem runOmfalos_eq (g : Gc) (st : List Slot) : g.runOmfalos st = g.collect st 0 := by
  unfold Gc.runOmfalos Gc.collect
  cases markAccess g.fuel g.mem st <;> simp

/-- top level: starting from a heap without marks, the mark phase marks exactly the live cells -/
theorem marked_iff_live {m m' : Mem} {roots : List Nat}
    (sp : MarkSpec m m' roots) (h0 : ∀ x, marked m x = false) (hnil : objAt m 0 = none) :
    ∀ b, marked m' b = true ↔ Live m roots b := by
  intro b
  constructor
  · intro hb
    exact sp.sound b hb (h0 b)
  · rintro ⟨hb0, hob, r, hr, p⟩
    -- every cell on a path from a root, that holds an object, is marked
    have key : ∀ c, Path m r c → c ≠ 0 → (objAt m c).isSome = true → marked m' c = true := by
      intro c pc
      induction pc with
      | refl =>
        intro hc0 hco
        rcases sp.done r hr with d | d | d
        · exact absurd d hc0
        · rw [sp.post.mono.obj] at d; simp [d] at hco
        · exact d
      | tail pab e ih =>
        rename_i b' c'
        intro hc0 hco
        obtain ⟨o, ho, hmem⟩ := e
        have hb'0 : b' ≠ 0 := by intro h; subst h; rw [hnil] at ho; cases ho
        have hb'm := ih hb'0 (by simp [ho])
        have cl := sp.post.closed b' hb'm (h0 b')
        rcases cl o (by rw [sp.post.mono.obj]; exact ho) c' hmem with d | d | d
        · exact absurd d hc0
        · rw [sp.post.mono.obj] at d; simp [d] at hco
        · exact d
    exact key b p hb0 hob

end Never
