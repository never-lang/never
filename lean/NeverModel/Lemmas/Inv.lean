import NeverModel.Lemmas.FreeInv
set_option linter.unusedSimpArgs false
set_option linter.unusedVariables false
/-! the heap invariant of C09 and its preservation by every operation -/
namespace Never
open Mem

/-- the invariant, with the free chain's cell list `fl` as explicit witness -/
structure InvL (g : Gc) (fl : List Nat) : Prop where
  nil_none : objAt g.mem 0 = none
  chain : Chain g.mem g.free fl
  fl_nodup : fl.Nodup
  fl_free : ∀ x ∈ fl, objAt g.mem x = none
  cur_nodup : g.cur.Nodup
  cur_alloc : ∀ x, x ∈ g.cur ↔ (objAt g.mem x).isSome = true
  oth_empty : g.oth = []
  unmarked : ∀ x, marked g.mem x = false
  count : fl.length + g.cur.length + 1 = g.mem.size
  cover : ∀ x, 0 < x → x < g.mem.size → x ∈ fl ∨ x ∈ g.cur
  wk : WK g.mem

def Inv (g : Gc) : Prop := ∃ fl, InvL g fl

theorem InvL.free {g : Gc} {fl : List Nat} (il : InvL g fl) : FreeL g fl :=
  ⟨il.nil_none, il.chain, il.fl_nodup, il.fl_free, il.cur_nodup, il.cur_alloc, il.oth_empty, il.cover⟩

theorem Inv.toFree {g : Gc} (h : Inv g) : FreeInv g := h.imp fun _ il => il.free

theorem InvL.pos {g : Gc} {fl : List Nat} (il : InvL g fl) : 1 ≤ g.mem.size := by
  have := il.count
  omega

/-- the invariant is its allocator part on a non-empty heap without marks whose references are well-kinded -/
theorem FreeL.inv {g : Gc} {fl : List Nat} (il : FreeL g fl) (hu : ∀ x, marked g.mem x = false) (hsz : 1 ≤ g.mem.size)
    (wk : WK g.mem) : InvL g fl :=
  ⟨il.nil_none, il.chain, il.fl_nodup, il.fl_free, il.cur_nodup, il.cur_alloc, il.oth_empty, hu, il.count hsz, il.cover, wk⟩

theorem inv_new (n : Nat) (h : 1 ≤ n) : Inv (Gc.new n) :=
  ⟨_, (freeL_new n h).inv (marked_new n) (by rw [size_new]; exact h) (fun a o ho => by rw [objAt_new] at ho; cases ho)⟩

/-! ### replacing an object by one of the same kind (all typed stores) -/

/-- `o'` answers the collector's kind tests as `o` does -/
def SameKind (o o' : Obj) : Prop :=
  isStr (some o') = isStr (some o) ∧ isVec (some o') = isVec (some o) ∧ isArr (some o') = isArr (some o)

theorem kinds_setObj {m : Mem} {a : Nat} {o o' : Obj} (ho : objAt m a = some o) (hk : SameKind o o') (r : Nat) :
    (objAt (setObj m a (some o')) r).isSome = (objAt m r).isSome ∧
    isStr (objAt (setObj m a (some o')) r) = isStr (objAt m r) ∧
    isVec (objAt (setObj m a (some o')) r) = isVec (objAt m r) ∧
    isArr (objAt (setObj m a (some o')) r) = isArr (objAt m r) := by
  rw [objAt_setObj]
  split
  · rename_i h
    rw [← h.1, ho]
    exact ⟨rfl, hk⟩
  · exact ⟨rfl, rfl, rfl, rfl⟩

theorem okObj_setObj {m : Mem} {a : Nat} {o o' : Obj} (ho : objAt m a = some o) (hk : SameKind o o') (x : Obj) :
    (setObj m a (some o')).okObj x = m.okObj x := by
  have hr : (setObj m a (some o')).okRef = m.okRef := by
    funext r; simp [Mem.okRef, (kinds_setObj ho hk r).1]
  cases x <;> simp [Mem.okObj, hr, Mem.okStr, Mem.okVec, Mem.okArr,
    (kinds_setObj ho hk _).2.1, (kinds_setObj ho hk _).2.2.1, (kinds_setObj ho hk _).2.2.2]

theorem inv_replace {g : Gc} {fl : List Nat} {a : Nat} {o o' : Obj} (inv : InvL g fl)
    (ho : objAt g.mem a = some o) (hk : SameKind o o') (hok : g.mem.okObj o' = true) :
    InvL { g with mem := g.mem.setObj a (some o') } fl := by
  refine (freeL_setObj inv.free (Or.inl (by rw [ho]; rfl))).inv (fun x => by simp [inv.unmarked x]) (by simpa using inv.pos) ?_
  intro b ob hb
  show (g.mem.setObj a (some o')).okObj ob = true
  rw [okObj_setObj ho hk]
  replace hb : objAt (g.mem.setObj a (some o')) b = some ob := hb
  rw [objAt_setObj] at hb
  split at hb
  · cases hb; exact hok
  · exact inv.wk b ob hb

theorem all_okRef_set {m : Mem} {fs : List Nat} {i v : Nat} (h : fs.all m.okRef = true) (hv : m.okRef v = true) :
    (fs.set i v).all m.okRef = true := by
  rw [List.all_eq_true] at h ⊢
  intro x hx
  rcases List.mem_or_eq_of_mem_set hx with h' | h'
  · exact h x h'
  · subst h'; exact hv

/-- the typed stores (`gc_set_*`, `gc_append_arr_elem`): the object each finds in cell `a` and the one it leaves there -/
inductive Stored : Op → Nat → Obj → Obj → Prop
  | setVec {a i v : Nat} {fs : List Nat} : i < fs.length → Stored (.setVec a i v) a (.vec fs) (.vec (fs.set i v))
  | setArr {a i v : Nat} {dv : List (Nat × Nat)} {es : List Nat} :
      i < es.length → Stored (.setArr a i v) a (.arr dv es) (.arr dv (es.set i v))
  | append {a v n mult : Nat} {es : List Nat} : Stored (.append a v) a (.arr [(n, mult)] es) (.arr [(n + 1, mult)] (es ++ [v]))
  | setFuncVec {a v e ip : Nat} : Stored (.setFuncVec a v) a (.func e ip) (.func v ip)
  | setVecRef {a v p : Nat} : Stored (.setVecRef a v) a (.vecRef p) (.vecRef v)
  | setArrRef {a v p : Nat} : Stored (.setArrRef a v) a (.arrRef p) (.arrRef v)
  | setStrRef {a v p : Nat} : Stored (.setStrRef a v) a (.strRef p) (.strRef v)

def Op.isStore : Op → Bool
  | .alloc _ | .collect _ _ | .omfalos _ | .run _ _ => false
  | _ => true

theorem apply_stored {g g' : Gc} {op : Op} (hs : op.isStore = true) (h : g.apply op = some g') :
    ∃ a o o', Stored op a o o' ∧ objAt g.mem a = some o ∧ g' = { g with mem := g.mem.setObj a (some o') } := by
  cases op with
  | setVec a i v =>
    simp only [Gc.apply, Gc.setVec] at h
    split at h
    · rename_i fs ho
      split at h
      · rename_i hi; cases h; exact ⟨a, _, _, .setVec hi, ho, rfl⟩
      · cases h
    · cases h
  | setArr a i v =>
    simp only [Gc.apply, Gc.setArrElem] at h
    split at h
    · rename_i dv es ho
      split at h
      · rename_i hi; cases h; exact ⟨a, _, _, .setArr hi, ho, rfl⟩
      · cases h
    · cases h
  | append a v =>
    simp only [Gc.apply, Gc.appendArrElem] at h
    split at h
    · rename_i ho; cases h; exact ⟨a, _, _, .append, ho, rfl⟩
    · cases h
  | setFuncVec a v =>
    simp only [Gc.apply, Gc.setFuncVec] at h
    split at h
    · rename_i ho; cases h; exact ⟨a, _, _, .setFuncVec, ho, rfl⟩
    · cases h
  | setVecRef a v =>
    simp only [Gc.apply, Gc.setVecRef] at h
    split at h
    · rename_i ho; cases h; exact ⟨a, _, _, .setVecRef, ho, rfl⟩
    · cases h
  | setArrRef a v =>
    simp only [Gc.apply, Gc.setArrRef] at h
    split at h
    · rename_i ho; cases h; exact ⟨a, _, _, .setArrRef, ho, rfl⟩
    · cases h
  | setStrRef a v =>
    simp only [Gc.apply, Gc.setStringRef] at h
    split at h
    · rename_i ho; cases h; exact ⟨a, _, _, .setStrRef, ho, rfl⟩
    · cases h
  | _ => cases hs

theorem Stored.sameKind {op : Op} {a : Nat} {o o' : Obj} (h : Stored op a o o') : SameKind o o' := by
  cases h <;> exact ⟨rfl, rfl, rfl⟩

/-- a well-typed store leaves a well-kinded object -/
theorem Stored.okObj {g : Gc} {op : Op} {a : Nat} {o o' : Obj} (h : Stored op a o o') (wt : g.wellTyped op = true)
    (ho : g.mem.okObj o = true) : g.mem.okObj o' = true := by
  cases h with
  | setVec _ => exact all_okRef_set ho wt
  | setArr _ => exact all_okRef_set ho wt
  | append =>
    simp only [Mem.okObj] at ho ⊢
    simp only [Gc.wellTyped] at wt
    simp [List.all_append, ho, wt]
  | _ => exact wt

theorem inv_store {g g' : Gc} {fl : List Nat} {op : Op} (inv : InvL g fl) (hs : op.isStore = true)
    (wt : g.wellTyped op = true) (h : g.apply op = some g') : InvL g' fl := by
  obtain ⟨a, o, o', st, ho, rfl⟩ := apply_stored hs h
  exact inv_replace inv ho st.sameKind (st.okObj wt (inv.wk a o ho))

/-! ### gc_alloc_any -/

/-- references into allocated cells stay well-kinded as long as those cells keep their objects -/
theorem okObj_of_refs_eq {m m' : Mem} (o : Obj) (h : ∀ p ∈ o.refs, p ≠ 0 → (objAt m p).isSome = true → objAt m' p = objAt m p)
    (hok : m.okObj o = true) : m'.okObj o = true := by
  have key : ∀ (q : Option Obj → Bool), q none = false → ∀ r ∈ o.refs,
      (decide (r = 0) || q (objAt m r)) = true → (decide (r = 0) || q (objAt m' r)) = true := by
    intro q hq r hr hk
    by_cases h0 : r = 0
    · simp [h0]
    · have hs : q (objAt m r) = true := by simpa [h0] using hk
      have : (objAt m r).isSome = true := by cases ho : objAt m r <;> simp_all
      rw [h r hr h0 this, hs, Bool.or_true]
  cases o with
  | strRef p => exact key isStr rfl p List.mem_cons_self hok
  | vecRef p => exact key isVec rfl p List.mem_cons_self hok
  | arrRef p => exact key isArr rfl p List.mem_cons_self hok
  | func e ip => exact key isVec rfl e List.mem_cons_self hok
  | vec fs =>
    simp only [Mem.okObj, List.all_eq_true] at hok ⊢
    exact fun r hr => key Option.isSome rfl r hr (hok r hr)
  | arr dv es =>
    simp only [Mem.okObj, List.all_eq_true] at hok ⊢
    exact fun r hr => key Option.isSome rfl r hr (hok r hr)
  | _ => rfl

theorem okObj_alloc {m : Mem} {loc : Nat} {o' : Obj} (hl : objAt m loc = none) (x : Obj)
    (h : m.okObj x = true) : (setObj m loc (some o')).okObj x = true := by
  refine okObj_of_refs_eq x (fun p _ _ hs => ?_) h
  rw [objAt_setObj, if_neg]
  rintro ⟨rfl, _⟩
  exact isSome_ne_none hs hl

/-- result of a successful `gc_alloc_any` -/
theorem inv_alloc {g g' : Gc} {fl : List Nat} {o : Obj} {loc : Nat} (inv : InvL g fl)
    (hok : g.mem.okObj o = true) (h : g.alloc o = some (g', loc)) :
    ∃ fl', fl = loc :: fl' ∧ InvL g' fl' ∧ objAt g.mem loc = none ∧ loc ≠ 0 ∧
      g'.mem = g.mem.setObj loc (some o) ∧ g'.cur = g.cur ++ [loc] := by
  obtain ⟨fl', hfl, il', hnone, h0, hmem, hcur⟩ := freeL_alloc inv.free h
  refine ⟨fl', hfl, il'.inv ?_ ?_ ?_, hnone, h0, hmem, hcur⟩
  · intro y; rw [hmem, marked_setObj]; exact inv.unmarked y
  · rw [hmem, size_setObj]; exact inv.pos
  · intro b ob hb
    rw [hmem] at hb ⊢
    rw [objAt_setObj] at hb
    split at hb
    · cases hb; exact okObj_alloc hnone _ hok
    · exact okObj_alloc hnone _ (inv.wk b ob hb)

end Never
