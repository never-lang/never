import NeverModel.Lemmas.VerLocal
import NeverModel.Lemmas.VmEFSound
import NeverModel.Lemmas.VmStkSound
set_option linter.unusedSimpArgs false
set_option linter.unusedVariables false
/-! which stack slots a step of a verified module can write: never at or below `pp`, never into the frame record of a call in
preparation (pending), for every opcode but RET / RETHROW (which write exactly the lowest word of the record they pop) -/
namespace Never.Ver
open Never Never.Vm

theorem wrP_slot_ne {vm vm' : Vm} {i : Int} {s : Slot} (h : wrP vm i s = .ok vm') (j : Int) (hne : j ≠ i) : slot vm' j = slot vm j := by
  unfold wrP at h
  split at h
  · cases h
  · rename_i hb
    cases h
    exact slot_setIfInBounds_ne vm i.toNat s j (by omega)

/-- MARK writes only above the top of stack -/
theorem markP_below {vm vm' : Vm} {ra : Nat} (h : markP vm ra = .ok vm') (j : Int) (hj : j ≤ vm.sp) : slot vm' j = slot vm j := by
  unfold markP at h
  simp only [bind, Except.bind] at h
  split at h
  · cases h
  · rename_i v0 h0
    obtain ⟨e0, _⟩ := checkP_regs h0
    subst e0
    split at h
    · cases h
    · rename_i v1 h1
      split at h
      · cases h
      · rename_i v2 h2
        split at h
        · cases h
        · rename_i v3 h3
          split at h
          · cases h
          · rename_i v4 h4
            split at h
            · cases h
            · rename_i v5 h5
              cases h
              show slot v5 j = slot vm j
              rw [wrP_slot_ne h5 j (by omega), wrP_slot_ne h4 j (by omega), wrP_slot_ne h3 j (by omega), wrP_slot_ne h2 j (by omega),
                wrP_slot_ne h1 j (by omega)]
              rfl

theorem slideLoopP_below (q : Nat) : ∀ (n : Nat) (vm vm' : Vm), slideLoopP q n vm = .ok vm' → ∀ j, j ≤ vm.sp → slot vm' j = slot vm j := by
  intro n
  induction n with
  | zero => intro vm vm' h j _; unfold slideLoopP at h; cases h; rfl
  | succ n ih =>
    intro vm vm' h j hj
    unfold slideLoopP at h
    simp only [bind, Except.bind] at h
    split at h
    · cases h
    · split at h
      · cases h
      · rename_i v1 h1
        have r1 := wrP_regs h1
        simp only at r1
        rw [ih _ _ h j (by omega), wrP_slot_ne h1 j (by omega)]
        rfl

/-- SLIDE q m writes only the `m` slots it moves down: everything at or below `sp − q − m` is left alone -/
theorem slideP_below {vm vm' : Vm} {q m : Nat} (h : slideP vm q m = .ok vm') (j : Int) (hj : j ≤ vm.sp - q - m) : slot vm' j = slot vm j := by
  unfold slideP at h
  split at h
  · cases h; rfl
  · split at h
    · cases h; rfl
    · exact slideLoopP_below q m { vm with sp := vm.sp - q - m } _ h j hj

/-- the stack slots after a step, from the slots after the handler (the exception dispatch writes no slot) -/
theorem step_slots_of_exec {md : Module} (orc : Oracle) (vm vm' : Vm) (i : Instr) (hi : md.code[vm.ip]? = some i)
    (hstep : (step md orc).run vm = .ok ((), vm')) (b : Int)
    (hx : ∀ s2, (exec md i orc).run { vm with ip := vm.ip + 1 } = .ok ((), s2) → ∀ j, j ≤ b → slot s2 j = slot vm j) :
    ∀ j, j ≤ b → slot vm' j = slot vm j := by
  obtain ⟨s2, he, hcase⟩ := step_exec md orc vm vm' i hi hstep
  intro j hj
  rcases hcase with ⟨_, e⟩ | ⟨_, hd, _, e⟩
  · rw [e]; exact hx s2 he j hj
  · rw [e]; exact hx s2 he j hj

section
variable {md : Module} {hm : HMap}

/-- **A verified function never writes at or below its frame base.**  From a machine at its recorded height, a step on any
instruction of the effect table (it writes no slot under its lowest operand, and its operands lie above the parameters), on MARK
(writes above the top), SLIDE (the slots it moves stay above `pp`, also in the last-call case: the parameter block `pp+1 …`), CALL,
CLEAR_STACK, JUMP (no stack write) leaves every stack slot `j ≤ pp` — the frame record the function was entered through and
everything of its callers below it — exactly as it was. -/
theorem step_keeps_below_pp (hf : flowOk md hm = true) (orc : Oracle) (vm vm' : Vm) (i : Instr) (hi : md.code[vm.ip]? = some i)
    (hh : AtHeight md hm vm)
    (hop : (simpleEffect i).isSome = true ∨ i.op = .MARK ∨ i.op = .SLIDE ∨ i.op = .CALL ∨ i.op = .CLEAR_STACK ∨ i.op = .JUMP)
    (hstep : (step md orc).run vm = .ok ((), vm')) : ∀ j, j ≤ vm.pp → slot vm' j = slot vm j := by
  obtain ⟨hrun, st, hs, hinv⟩ := hh
  refine step_slots_of_exec orc vm vm' i hi hstep vm.pp (fun s2 h2 j hj => ?_)
  have sl : ∀ k, slot ({ vm with ip := vm.ip + 1 } : Vm) k = slot vm k := fun _ => rfl
  rcases hop with hop | hop | hop | hop | hop | hop
  · cases he : simpleEffect i with
    | none => rw [he] at hop; cases hop
    | some pq =>
      obtain ⟨p, q⟩ := pq
      have hp : p ≤ st.h := by
        by_cases hj' : i.op = .JUMPZ
        · have e1 : simpleEffect i = some (1, 0) := by simp [simpleEffect, hj', binOpOf, unOpOf, convOf, nilCmpOf, strAddOf, arrOpOf, mkArrayElem]
          rw [e1] at he; cases he
          exact ((flow_branch hf hi hs).1 hj').1
        · obtain ⟨_, _, hp, _⟩ := flow_table hf hi hs he hj'
          exact hp
      have := exec_foot_table md i orc p q he vm.sp { vm with ip := vm.ip + 1 } () s2 rfl h2 j (by omega)
      rw [this, sl]
  · rw [markP_below (exec_MARK md i orc hop _ _ h2) j (by show j ≤ vm.sp; omega), sl]
  · rcases exec_SLIDE md i orc hop _ _ h2 with ⟨_, hg0⟩ | ⟨hq, v1, hsl, hgc⟩
    · have hst : s2.stack = _ := (gcRunPure_regs hg0).2.2.2.2.2.2.2
      have e2 : slot s2 j = slot { vm with ip := vm.ip + 1 } j := by unfold slot; rw [hst]
      rw [e2]; rfl
    · have hst : s2.stack = v1.stack := (gcRunPure_regs hgc).2.2.2.2.2.2.2
      have e2 : slot s2 j = slot v1 j := by unfold slot; rw [hst]
      rw [e2]
      have hc := frameOkAt_SLIDE hi hs hop (frame_at hf hi)
      have hb : j ≤ vm.sp - (i.w0 : Int) - (i.w1 : Int) := by
        rcases hc with ⟨hq', _⟩ | ⟨_, hle, _⟩ | ⟨_, _, hh', hm1, _, _⟩
        · exact absurd hq' hq
        · omega
        · unfold fnParamsAt at hinv; omega
      rw [slideP_below hsl j (by show j ≤ vm.sp - _ - _; exact hb), sl]
  · obtain ⟨a, env, fip, _, _, e⟩ := exec_CALL md i orc hop _ _ h2
    rw [e]; unfold callP; split <;> rfl
  · rw [exec_CLEAR_STACK md i orc hop _ _ h2]; rfl
  · exec_unfold hop at h2
    obtain ⟨sp, s0, h0, hA⟩ := (run_bind_ok _ _ _ _ _).mp h2
    obtain ⟨_, e0'⟩ := getSp_run _ _ _ h0
    rw [e0'] at hA
    rw [modify_run _ _ _ _ hA]; rfl

/-- … hence every live frame record at or below `pp` keeps its words -/
theorem framesKept_below_pp (hf : flowOk md hm = true) (orc : Oracle) (vm vm' : Vm) (i : Instr) (hi : md.code[vm.ip]? = some i)
    (hh : AtHeight md hm vm)
    (hop : (simpleEffect i).isSome = true ∨ i.op = .MARK ∨ i.op = .SLIDE ∨ i.op = .CALL ∨ i.op = .CLEAR_STACK ∨ i.op = .JUMP)
    (hstep : (step md orc).run vm = .ok ((), vm')) (r : Rec) (hr : r.F ≤ vm.pp) :
    slot vm' (r.F - 4) = slot vm (r.F - 4) ∧ slot vm' (r.F - 1) = slot vm (r.F - 1) ∧ slot vm' r.F = slot vm r.F := by
  have k := step_keeps_below_pp hf orc vm vm' i hi hh hop hstep
  exact ⟨k _ (by omega), k _ (by omega), k _ hr⟩

end

/-- handlers that write no stack slot at all: HALT, UNHANDLED_EXCEPTION, LABEL -/
theorem exec_stack_same (md : Module) (i : Instr) (orc : Oracle) (hop : i.op = .HALT ∨ i.op = .UNHANDLED_EXCEPTION ∨ i.op = .LABEL)
    (vm s2 : Vm) (h2 : (exec md i orc).run vm = .ok ((), s2)) : s2.stack = vm.stack := by
  rcases hop with hop | hop | hop
  · rw [exec_HALT md i orc hop _ _ h2]
  · exec_unfold hop at h2
    obtain ⟨sp, s0, h0, hA⟩ := (run_bind_ok _ _ _ _ _).mp h2
    obtain ⟨_, e0'⟩ := getSp_run _ _ _ h0
    rw [e0'] at hA
    obtain ⟨v1, s1, h1, hB⟩ := (run_bind_ok _ _ _ _ _).mp hA
    obtain ⟨_, e1'⟩ := get_run _ _ _ h1
    rw [e1'] at hB
    obtain ⟨u2, s2', h2', hC⟩ := (run_bind_ok _ _ _ _ _).mp hB
    have e2 := modify_run _ _ _ _ h2'
    have e3 := modify_run _ _ _ _ hC
    rw [e3, e2]
  · exec_unfold hop at h2
    obtain ⟨sp, s0, h0, hA⟩ := (run_bind_ok _ _ _ _ _).mp h2
    obtain ⟨_, e0'⟩ := getSp_run _ _ _ h0
    obtain ⟨_, e1'⟩ := (run_pure_ok _ _ _ _).mp hA
    rw [e1', e0']

/-! ### PUSH_PARAM and MK_INIT_ARRAY -/

/-- `pushParams` only pushes: it writes above the top of stack -/
theorem pushParams_foot : ∀ (ps : List Param) (s lo : Int), lo ≤ s + 1 → FootAt s lo (pushParams ps) := by
  intro ps
  induction ps with
  | nil => intro s lo _; unfold pushParams; exact FootAt.of_foot (Foot.of_nowr (NoWr.pure _))
  | cons p rest ih =>
    intro s lo h
    have tail : ∀ a : Nat, FootAt s lo (do pushAddr a; pushParams rest) := fun a =>
      FootAt.mov_bind (pushAddr_mov _ _) (FootAt.pushAddr _ _ _ h) (fun _ => ih _ _ (by omega))
    unfold pushParams
    cases p with
    | int v => exact FootAt.keeps_bind (by keeps) (Foot.of_nowr (by nowr)) (fun a => by simpa using tail a)
    | float b => exact FootAt.keeps_bind (by keeps) (Foot.of_nowr (by nowr)) (fun a => by simpa using tail a)
    | str st =>
      refine FootAt.keeps_bind (by keeps) (Foot.of_nowr (by nowr)) (fun a => ?_)
      exact FootAt.keeps_bind (by keeps) (Foot.of_nowr (by nowr)) (fun a => by simpa using tail a)
    | strArr ss =>
      refine FootAt.keeps_bind (by keeps) (Foot.of_nowr (by nowr)) (fun a => ?_)
      refine FootAt.keeps_bind (keeps_fillStrs _ _ _) (Foot.of_nowr (rel_fillStrs (R := SameStack) _ _ _)) (fun _ => ?_)
      exact FootAt.keeps_bind (by keeps) (Foot.of_nowr (by nowr)) (fun a => by simpa using tail a)

theorem foot_PUSH_PARAM (md : Module) (ins : Instr) (orc : Oracle) (s : Int) (h : ins.op = .PUSH_PARAM) :
    FootAt s (s + 1) (exec md ins orc) := by
  unfold exec
  simp only [h, binOpOf, unOpOf, convOf, nilCmpOf, strAddOf, arrOpOf, mkArrayElem]
  exact FootAt.getSp_bind (pushParams_foot _ _ _ (by omega))

/-- MK_INIT_ARRAY writes one slot, the one its result is pushed to: everything at or below `sp − dims − count` is left alone -/
theorem exec_MK_INIT_ARRAY_slots (md : Module) (ins : Instr) (orc : Oracle) (hop : ins.op = .MK_INIT_ARRAY) (vm vm' : Vm) (ds : List Int)
    (hpop : stackInts vm ins.w0 vm.sp = some ds) (hc : extsCount ds < 4294967296)
    (h : (exec md ins orc).run vm = .ok ((), vm')) :
    ∀ j, j ≤ vm.sp - (ins.w0 : Int) - (extsCount ds : Int) → slot vm' j = slot vm j := by
  exec_unfold hop at h
  obtain ⟨sp, s0, h0, h⟩ := (run_bind_ok _ _ _ _ _).mp h
  obtain ⟨e0, e0'⟩ := getSp_run _ _ _ h0
  rw [e0'] at h
  obtain ⟨exts, v1, h1, h⟩ := (run_bind_ok _ _ _ _ _).mp h
  obtain ⟨a1, a2, a3, a4⟩ := popInts_mov ins.w0 vm.sp vm exts v1 rfl h1
  obtain ⟨r1, _, _, _⟩ := popInts_reads _ _ _ _ h1
  have w1 := rel_popInts (R := SameStack) _ _ _ _ h1
  rw [hpop] at r1
  have eds : exts = ds := by cases r1; rfl
  obtain ⟨arr, v2, h2, h⟩ := (run_bind_ok _ _ _ _ _).mp h
  obtain ⟨b1, b2, b3, b4⟩ := rel_allocArr (R := SameRegs) _ _ _ _ h2
  have w2 := rel_allocArr (R := SameStack) _ _ _ _ h2
  have h2' : (alloc (.arr (Idx.dimMult (exts.map fun e => (e % 4294967296).toNat)).1
      (List.replicate (Idx.dimMult (exts.map fun e => (e % 4294967296).toNat)).2 0))).run v1 = .ok (arr, v2) := by
    simpa [allocArr] using h2
  obtain ⟨p, v3, h3, h⟩ := (run_bind_ok _ _ _ _ _).mp h
  obtain ⟨dv, es⟩ := p
  obtain ⟨c1, c2, c3, c4⟩ := rel_getArrObj (R := SameRegs) _ _ _ _ h3
  have w3 := rel_getArrObj (R := SameStack) _ _ _ _ h3
  obtain ⟨_, ees⟩ := getArrObj_after_alloc h2' h3
  have hlen : es.length = extsCount ds := by
    rw [ees, List.length_replicate, Idx.dimMult_total, eds]
    exact Nat.mod_eq_of_lt hc
  simp only at h
  obtain ⟨elems, v4, h4, h⟩ := (run_bind_ok _ _ _ _ _).mp h
  obtain ⟨d1, d2, d3, d4⟩ := popAddrs_mov es.length v3.sp v3 elems v4 rfl h4
  have w4 := rel_popAddrs (R := SameStack) _ _ _ _ h4
  obtain ⟨u5, v5, h5, h⟩ := (run_bind_ok _ _ _ _ _).mp h
  obtain ⟨f1, f2, f3, f4⟩ := rel_setObj (R := SameRegs) _ _ _ _ _ h5
  have w5 := rel_setObj (R := SameStack) _ _ _ _ _ h5
  obtain ⟨s6, v6, h6, h⟩ := (run_bind_ok _ _ _ _ _).mp h
  obtain ⟨g1, g2⟩ := getSp_run _ _ _ h6
  rw [g1, g2] at h
  obtain ⟨u7, v7, h7, h⟩ := (run_bind_ok _ _ _ _ _).mp h
  obtain ⟨i1, i2, i3, i4, _⟩ := keeps_setSp_run _ _ _ _ h7
  have w7 := setSp_slot _ _ _ _ h7
  obtain ⟨u8, v8, h8, h⟩ := (run_bind_ok _ _ _ _ _).mp h
  obtain ⟨j1, j2, j3, j4⟩ := rel_checkStack (R := SameRegs) _ _ _ h8
  have w8 := rel_checkStack (R := SameStack) _ _ _ h8
  obtain ⟨s9, v9, h9, h⟩ := (run_bind_ok _ _ _ _ _).mp h
  obtain ⟨k1, k2⟩ := getSp_run _ _ _ h9
  rw [k2] at h
  obtain ⟨r, v10, h10, h⟩ := (run_bind_ok _ _ _ _ _).mp h
  have w10 := rel_alloc (R := SameStack) _ _ _ _ h10
  intro j hj
  have hw := Foot.wrSlot s9 s9 (.addr r) (Int.le_refl _) _ _ _ h j (by omega)
  rw [hw]
  unfold slot
  rw [w10, w8, w7, w5, w4, w3, w2, w1]

/-- the highest stack slot that can hold a word of a live frame record while the running function (frame base `pp`, `base = pp +
nparams`) has the calls `ms` in preparation: the top word of the innermost pending record, or `pp` when there is none -/
def recTop (pp base : Int) (ms : List Nat) : Int := match ms with | [] => pp | m :: _ => base + (m : Int) + 5

section
variable {md : Module} {hm : HMap}

/-- **No step of a verified module writes into a live frame record** — except the RET / RETHROW that pops it.  From a machine at its
recorded height, with the calls `marks(ip)` in preparation, a step on any instruction other than RET / RETHROW leaves every slot
`j ≤ recTop` as it was: the words of the pending records of the running function, the record it was entered through, and everything of
its callers.  (For MK_INIT_ARRAY: provided the extents on the stack are the recorded constants.) -/
theorem step_keeps_records (hf : flowOk md hm = true) (orc : Oracle) (vm vm' : Vm) (i : Instr) (st : AbsSt)
    (hi : md.code[vm.ip]? = some i) (hs : hm[vm.ip]? = some (some st)) (hrun : vm.running = 1)
    (hinv : vm.sp = vm.pp + (fnParamsAt md vm.ip : Int) + (st.h : Int))
    (hnot : i.op ≠ .RET ∧ i.op ≠ .RETHROW)
    (hmk : i.op = .MK_INIT_ARRAY → stackInts vm i.w0 vm.sp = initExts st i.w0)
    (hstep : (step md orc).run vm = .ok ((), vm')) :
    ∀ j, j ≤ recTop vm.pp (vm.pp + (fnParamsAt md vm.ip : Int)) st.marks → slot vm' j = slot vm j := by
  have hpend := flowOk_pend hf (lt_size_of_getElem? hi)
  have hnest := pendOkAt_nested hi hs hpend
  have hfl := marksNested_floor hnest
  -- in terms of the floor: every `j ≤ recTop` is at or below `pp` (no pending record) or at or below `base + floor`
  have hb : ∀ j, j ≤ recTop vm.pp (vm.pp + (fnParamsAt md vm.ip : Int)) st.marks →
      (st.marks = [] ∧ j ≤ vm.pp) ∨ (st.marks ≠ [] ∧ j ≤ vm.pp + (fnParamsAt md vm.ip : Int) + (pendFloor st.marks : Int)) := by
    intro j hj
    cases hm' : st.marks with
    | nil => rw [hm'] at hj; exact Or.inl ⟨rfl, hj⟩
    | cons m rest =>
      rw [hm'] at hj
      refine Or.inr ⟨by simp, ?_⟩
      simp only [recTop] at hj
      simp only [pendFloor]; omega
  refine step_slots_of_exec orc vm vm' i hi hstep _ (fun s2 h2 j hj => ?_)
  have sl : ∀ k, slot ({ vm with ip := vm.ip + 1 } : Vm) k = slot vm k := fun _ => rfl
  have hjb := hb j hj
  cases he : simpleEffect i with
  | some pq =>
    obtain ⟨p, q⟩ := pq
    have hp : p ≤ st.h ∧ pendFloor st.marks + p ≤ st.h := by
      by_cases hj' : i.op = .JUMPZ
      · have e1 : simpleEffect i = some (1, 0) := by simp [simpleEffect, hj', binOpOf, unOpOf, convOf, nilCmpOf, strAddOf, arrOpOf, mkArrayElem]
        rw [e1] at he; cases he
        exact ⟨((flow_branch hf hi hs).1 hj').1, (pendOkAt_JUMPZ hi hs hj' hpend).1⟩
      · obtain ⟨_, _, hp, _⟩ := flow_table hf hi hs he hj'
        exact ⟨hp, (pendOkAt_table hi hs he hj' hpend).1⟩
    have := exec_foot_table md i orc p q he vm.sp { vm with ip := vm.ip + 1 } () s2 rfl h2 j (by rcases hjb with ⟨_, h⟩ | ⟨_, h⟩ <;> omega)
    rw [this, sl]
  | none =>
    rcases simpleEffect_none_cases i he with h | h | h | h | h | h | h | h | h | h | h | h | h | h
    · exact absurd h2 (exec_unmodelled_fails md i orc _ _ (Or.inl h))
    · exact absurd h2 (exec_unmodelled_fails md i orc _ _ (Or.inr (Or.inl h)))
    · exact absurd h2 (exec_unmodelled_fails md i orc _ _ (Or.inr (Or.inr h)))
    · -- JUMP
      exec_unfold h at h2
      obtain ⟨sp, s0, h0, hA⟩ := (run_bind_ok _ _ _ _ _).mp h2
      obtain ⟨_, e0'⟩ := getSp_run _ _ _ h0
      rw [e0'] at hA
      rw [modify_run _ _ _ _ hA]; rfl
    · -- MK_INIT_ARRAY
      obtain ⟨ds, hds, hc, hle, _⟩ := frameOkAt_MK_INIT_ARRAY hi hs h (frame_at hf hi)
      obtain ⟨ds', hds', hfl', _⟩ := pendOkAt_MK_INIT_ARRAY hi hs h hpend
      rw [hds] at hds'; cases hds'
      have hext := hmk h
      rw [hds] at hext
      have hext' : stackInts { vm with ip := vm.ip + 1 } i.w0 vm.sp = some ds := by
        rw [stackInts_congr vm { vm with ip := vm.ip + 1 } rfl rfl rfl]; exact hext
      have := exec_MK_INIT_ARRAY_slots md i orc h { vm with ip := vm.ip + 1 } s2 ds hext' hc h2 j
        (by show j ≤ vm.sp - _ - _; rcases hjb with ⟨_, h⟩ | ⟨_, h⟩ <;> omega)
      rw [this, sl]
    · rw [markP_below (exec_MARK md i orc h _ _ h2) j (by show j ≤ vm.sp; rcases hjb with ⟨_, h⟩ | ⟨_, h⟩ <;> omega), sl]
    · obtain ⟨a, env, fip, _, _, e⟩ := exec_CALL md i orc h _ _ h2
      rw [e]; unfold callP; split <;> rfl
    · -- SLIDE
      rcases exec_SLIDE md i orc h _ _ h2 with ⟨_, hg0⟩ | ⟨hq, v1, hsl, hgc⟩
      · have hst : s2.stack = _ := (gcRunPure_regs hg0).2.2.2.2.2.2.2
        have e2 : slot s2 j = slot { vm with ip := vm.ip + 1 } j := by unfold slot; rw [hst]
        rw [e2]; rfl
      · have hst : s2.stack = v1.stack := (gcRunPure_regs hgc).2.2.2.2.2.2.2
        have e2 : slot s2 j = slot v1 j := by unfold slot; rw [hst]
        rw [e2]
        have hc := frameOkAt_SLIDE hi hs h (frame_at hf hi)
        have hpc := pendOkAt_SLIDE hi hs h hpend
        have hbd : j ≤ vm.sp - (i.w0 : Int) - (i.w1 : Int) := by
          rcases hpc with ⟨hq', _⟩ | ⟨_, hle, hfl', _⟩ | ⟨_, hlt, hnil, _⟩
          · exact absurd hq' hq
          · rcases hjb with ⟨_, hh⟩ | ⟨_, hh⟩ <;> omega
          · rcases hc with ⟨hq', _⟩ | ⟨_, hle, _⟩ | ⟨_, _, hh', hm1, _, _⟩
            · exact absurd hq' hq
            · omega
            · rcases hjb with ⟨_, hh⟩ | ⟨hne, _⟩
              · unfold fnParamsAt at hinv; omega
              · exact absurd hnil hne
        rw [slideP_below hsl j (by show j ≤ vm.sp - _ - _; exact hbd), sl]
    · rw [exec_CLEAR_STACK md i orc h _ _ h2]; rfl
    · exact absurd h hnot.1
    · exact absurd h hnot.2
    · -- PUSH_PARAM
      have := foot_PUSH_PARAM md i orc vm.sp h { vm with ip := vm.ip + 1 } () s2 rfl h2 j (by rcases hjb with ⟨_, h⟩ | ⟨_, h⟩ <;> omega)
      rw [this, sl]
    · have := exec_stack_same md i orc (Or.inr (Or.inl h)) _ s2 h2
      unfold slot; rw [this]
    · have := exec_stack_same md i orc (Or.inl h) _ s2 h2
      unfold slot; rw [this]

end
end Never.Ver
