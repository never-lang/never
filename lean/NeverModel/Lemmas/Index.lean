import NeverModel.Model.Index
/-! helper lemmas for Props/C12.lean (written by a sub-agent, checked here) -/
namespace Never.Idx

theorem U32_pos : 0 < U32 := by decide

theorem prodWrap_eq (exts : List Nat) (e : Nat) (he : e < U32) :
    prodWrap exts e = (e * prod exts) % U32 := by
  induction exts generalizing e with
  | nil => simp [prodWrap, prod, Nat.mod_eq_of_lt he]
  | cons x xs ih =>
    rw [prodWrap, ih _ (Nat.mod_lt _ U32_pos), prod, Nat.mod_mul_mod, Nat.mul_assoc]

theorem dimMult_total (exts : List Nat) : (dimMult exts).2 = prod exts % U32 := by
  simp [dimMult, prodWrap_eq exts 1 (by decide)]

theorem dimMult_of_lt (exts : List Nat) (hp : prod exts < U32) :
    dimMult exts = (multPass exts (prod exts), prod exts) := by
  simp [dimMult, prodWrap_eq exts 1 (by decide), Nat.mod_eq_of_lt hp]

def InRangeR : List Nat → List Nat → Prop
  | [], [] => True
  | e :: es, i :: is => i < e ∧ InRangeR es is
  | _, _ => False

theorem inRangeR_iff (exts : List Nat) : ∀ idx : List Nat, InRangeR exts idx ↔
    (idx.length = exts.length ∧ ∀ k (h1 : k < idx.length) (h2 : k < exts.length), idx[k] < exts[k]) := by
  induction exts with
  | nil => intro idx; cases idx <;> simp [InRangeR]
  | cons x xs ih =>
    intro idx
    cases idx with
    | nil => simp [InRangeR]
    | cons i is =>
      simp only [InRangeR, ih, List.length_cons]
      constructor
      · rintro ⟨h0, hl, h⟩
        refine ⟨by omega, ?_⟩
        intro k h1 h2
        cases k with
        | zero => simpa using h0
        | succ k => simpa using h k (by omega) (by omega)
      · rintro ⟨hl, h⟩
        refine ⟨by simpa using h 0 (by omega) (by omega), by omega, ?_⟩
        intro k h1 h2
        have := h (k+1) (by omega) (by omega)
        simp only [List.getElem_cons_succ] at this
        exact this

theorem rowMajor_lt (exts : List Nat) : ∀ idx, InRangeR exts idx → rowMajor exts idx < prod exts := by
  induction exts with
  | nil => intro idx h; cases idx <;> simp_all [InRangeR, rowMajor, prod]
  | cons x xs ih =>
    intro idx h
    cases idx with
    | nil => simp [InRangeR] at h
    | cons i is =>
      obtain ⟨h0, h⟩ := h
      have hr := ih is h
      have h1 : (i + 1) * prod xs ≤ x * prod xs := Nat.mul_le_mul_right _ h0
      rw [Nat.add_mul, Nat.one_mul] at h1
      simp only [rowMajor, prod]
      omega

theorem dimAddrAux_multPass_ok (exts : List Nat) : ∀ (idx : List Nat) (m acc : Nat),
    InRangeR exts idx → acc + rowMajor exts idx < U32 →
    dimAddrAux (multPass exts (prod exts)) idx m acc = .ok (acc + rowMajor exts idx) := by
  induction exts with
  | nil => intro idx m acc h _; cases idx <;> simp_all [InRangeR, rowMajor, multPass, dimAddrAux]
  | cons x xs ih =>
    intro idx m acc h hb
    cases idx with
    | nil => simp [InRangeR] at h
    | cons i is =>
      obtain ⟨h0, h⟩ := h
      have hx : x ≠ 0 := by omega
      have hdiv : x * prod xs / x = prod xs := Nat.mul_div_cancel_left _ (by omega)
      simp only [rowMajor] at hb ⊢
      have hcomm : prod xs * i = i * prod xs := Nat.mul_comm _ _
      have hmod : (acc + prod xs * i) % U32 = acc + i * prod xs := by
        rw [hcomm]; exact Nat.mod_eq_of_lt (by omega)
      simp only [multPass, prod, hx, ne_eq, not_false_eq_true, if_true, hdiv, dimAddrAux]
      rw [if_neg (by omega), hmod, ih is (m+1) _ h (by omega)]
      simp [Nat.add_assoc]

theorem dimAddrAux_multPass_error (exts : List Nat) : ∀ (e : Nat) (idx : List Nat) (m acc k0 : Nat)
    (h1 : k0 < exts.length) (h2 : k0 < idx.length),
    exts[k0] ≤ idx[k0] → (∀ k (hk : k < k0), idx[k] < exts[k]) →
    dimAddrAux (multPass exts e) idx m acc = .error (m + k0) := by
  induction exts with
  | nil => intro e idx m acc k0 h1; simp at h1
  | cons x xs ih =>
    intro e idx m acc k0 h1 h2 hle hfirst
    cases idx with
    | nil => simp at h2
    | cons i is =>
      cases k0 with
      | zero =>
        have : x ≤ i := hle
        simp only [multPass]; split <;> simp [dimAddrAux, this]
      | succ k =>
        have h0 : i < x := hfirst 0 (Nat.zero_lt_succ _)
        have hn : ¬ x ≤ i := by omega
        have hrec : ∀ e' acc', dimAddrAux (multPass xs e') is (m+1) acc' = .error (m + 1 + k) :=
          fun e' acc' => ih e' is (m+1) acc' k (Nat.lt_of_succ_lt_succ h1) (Nat.lt_of_succ_lt_succ h2) hle
            (fun j hj => hfirst (j+1) (Nat.succ_lt_succ hj))
        simp only [multPass]; split <;> simp only [dimAddrAux, if_neg hn, hrec] <;> congr 1 <;> omega

theorem rowMajor_inj (exts : List Nat) : ∀ i1 i2, InRangeR exts i1 → InRangeR exts i2 →
    rowMajor exts i1 = rowMajor exts i2 → i1 = i2 := by
  induction exts with
  | nil => intro i1 i2 h1 h2 _; cases i1 <;> cases i2 <;> simp_all [InRangeR]
  | cons x xs ih =>
    intro i1 i2 h1 h2 heq
    cases i1 with
    | nil => simp [InRangeR] at h1
    | cons a as =>
      cases i2 with
      | nil => simp [InRangeR] at h2
      | cons b bs =>
        obtain ⟨_, h1⟩ := h1
        obtain ⟨_, h2⟩ := h2
        have r1 := rowMajor_lt xs as h1
        have r2 := rowMajor_lt xs bs h2
        simp only [rowMajor] at heq
        have hab : a = b := by
          rcases Nat.lt_trichotomy a b with hlt | he | hgt
          · have := Nat.mul_le_mul_right (prod xs) (show a + 1 ≤ b from hlt)
            rw [Nat.add_mul, Nat.one_mul] at this; omega
          · exact he
          · have := Nat.mul_le_mul_right (prod xs) (show b + 1 ≤ a from hgt)
            rw [Nat.add_mul, Nat.one_mul] at this; omega
        subst hab
        have : rowMajor xs as = rowMajor xs bs := by omega
        rw [ih as bs h1 h2 this]

theorem firstNeg_some (idx : List Int) : ∀ (m d : Nat) (h : d < idx.length),
    idx[d] < 0 → (∀ k (hk : k < d), 0 ≤ idx[k]) → firstNeg idx m = some (m + d) := by
  induction idx with
  | nil => intro m d h; simp at h
  | cons e es ih =>
    intro m d h hneg hfirst
    cases d with
    | zero =>
      have : e < 0 := hneg
      simp [firstNeg, this]
    | succ d =>
      have h0 : ¬ e < 0 := Int.not_lt.2 (hfirst 0 (Nat.zero_lt_succ _))
      simp only [firstNeg, if_neg h0]
      rw [ih (m+1) d (Nat.lt_of_succ_lt_succ h) hneg (fun k hk => hfirst (k+1) (Nat.succ_lt_succ hk))]
      congr 1; omega

theorem firstNeg_none (idx : List Int) : ∀ (m : Nat),
    (∀ k (hk : k < idx.length), 0 ≤ idx[k]) → firstNeg idx m = none := by
  induction idx with
  | nil => intro m _; rfl
  | cons e es ih =>
    intro m h
    have h0 : ¬ e < 0 := Int.not_lt.2 (h 0 (Nat.zero_lt_succ _))
    simp only [firstNeg, if_neg h0]
    exact ih (m+1) (fun k hk => h (k+1) (Nat.succ_lt_succ hk))

/-- the composed index tuple: position `idx_k` of the range `ranges_k`, per dimension. -/
def composed (ranges : List (Int × Int)) (idx : List Int) : List Int :=
  List.zipWith (fun r i => rangePos r.1 r.2 i) ranges idx

theorem le_prod_of_pos (exts : List Nat) (hpos : ∀ x ∈ exts, 0 < x) :
    ∀ k (h : k < exts.length), exts[k] ≤ prod exts := by
  induction exts with
  | nil => intro k h; simp at h
  | cons x xs ih =>
    intro k h
    have hx : 0 < x := hpos x (by simp)
    have hxs : ∀ y ∈ xs, 0 < y := fun y hy => hpos y (by simp [hy])
    have hp : 0 < prod xs := by
      clear ih h
      induction xs with
      | nil => simp [prod]
      | cons y ys ih2 =>
        simp only [prod]
        exact Nat.mul_pos (hxs y (by simp)) (ih2 (fun z hz => hpos z (by
          rcases List.mem_cons.1 hz with h | h
          · simp [h]
          · simp [h])) (fun z hz => hxs z (by simp [hz])))
    cases k with
    | zero => simp only [List.getElem_cons_zero, prod]; exact Nat.le_mul_of_pos_right _ hp
    | succ k =>
      simp only [List.getElem_cons_succ, prod]
      exact Nat.le_trans (ih hxs k (by simpa using h)) (Nat.le_mul_of_pos_left _ hx)

theorem toU32_eq_toNat (x : Int) (h0 : 0 ≤ x) (h1 : x < (U32 : Int)) : toU32 x = x.toNat := by
  simp only [toU32, U32] at *
  omega

theorem extsEq_iff (dv1 : List (Nat × Nat)) : ∀ dv2 : List (Nat × Nat), dv1.length = dv2.length →
    (extsEq dv1 dv2 = true ↔ dv1.map Prod.fst = dv2.map Prod.fst) := by
  induction dv1 with
  | nil => intro dv2 h; cases dv2 <;> simp_all [extsEq]
  | cons p ps ih =>
    intro dv2 h
    cases dv2 with
    | nil => simp at h
    | cons q qs =>
      obtain ⟨e1, m1⟩ := p
      obtain ⟨e2, m2⟩ := q
      have := ih qs (by simpa using h)
      by_cases he : e1 = e2 <;> simp [extsEq, he, this]

end Never.Idx
