import NeverModel.Lemmas.VmFoot
import NeverModel.Lemmas.VmKept
/-! Stack-pointer effect and write footprint in one judgement.  `EF s d lo f`: started with `sp = s`, `f` moves `sp` by `d` (or raises,
or stops) and leaves every slot below `lo` alone — `EffAt s d f ∧ FootAt s lo f`.  Both facts need the same bookkeeping of `sp`
along a handler, so one walk (`ef`) establishes them together; what a block of heap-level helpers does is asked once, as
`Rel Quiet`. -/
namespace Never.Vm
open Never Never.Num

variable {α β : Type}

/-- registers, stack size and stack contents untouched -/
abbrev Quiet : Vm → Vm → Prop := Both SameRegs SameStack

theorem Rel.keeps {f : M α} (h : Rel Quiet f) : KeepsSp f := h.mono fun _ _ h => h.1
theorem Rel.nowr {f : M α} (h : Rel Quiet f) : NoWr f := h.mono fun _ _ h => h.2

def EF (s d lo : Int) (f : M α) : Prop := EffAt s d f ∧ FootAt s lo f

variable {s d lo : Int}

theorem EF.getSp_bind {g : Int → M β} (h : EF s d lo (g s)) : EF s d lo (getSp >>= g) :=
  ⟨EffAt.getSp_bind h.1, FootAt.getSp_bind h.2⟩

/-- `sp` is set to `v`; the rest is judged from there -/
theorem EF.setSp_then (v : Int) {g : PUnit → M β} (h : ∀ a, EF v (s + d - v) lo (g a)) : EF s d lo (setSp v >>= g) :=
  ⟨EffAt.setSp_then _ _ _ fun a => (h a).1, FootAt.setSp_then _ _ _ fun a => (h a).2⟩

theorem EF.quiet_bind {f : M α} {g : α → M β} (hq : Rel Quiet f) (h : ∀ a, EF s d lo (g a)) : EF s d lo (f >>= g) :=
  ⟨EffAt.keeps_bind hq.keeps fun a => (h a).1, FootAt.keeps_bind hq.keeps (Foot.of_nowr hq.nowr) fun a => (h a).2⟩

theorem EF.wr_bind {i : Int} {x : Slot} {g : Unit → M β} (hlo : lo ≤ i) (h : ∀ a, EF s d lo (g a)) : EF s d lo (wrSlot i x >>= g) :=
  ⟨EffAt.keeps_bind (keeps_wrSlot i x) fun a => (h a).1,
   FootAt.keeps_bind (keeps_wrSlot i x) (Foot.wrSlot lo i x hlo) fun a => (h a).2⟩

theorem EF.quiet {f : M α} (hq : Rel Quiet f) (hd : d = 0) : EF s d lo f :=
  ⟨EffAt.of_keeps' hq.keeps hd, FootAt.of_foot (Foot.of_nowr hq.nowr)⟩

theorem EF.wrSlot {i : Int} {x : Slot} (hd : d = 0) (hlo : lo ≤ i) : EF s d lo (wrSlot i x) :=
  ⟨EffAt.of_keeps' (keeps_wrSlot i x) hd, FootAt.of_foot (Foot.wrSlot lo i x hlo)⟩

theorem EF.setSp {v : Int} (hv : v = s + d) : EF s d lo (setSp v) :=
  ⟨EffAt.setSp s d v hv, FootAt.of_foot (Foot.of_nowr (rel_setSp (R := SameStack) v))⟩

theorem EF.pushAddr {a : Nat} (hd : d = 1) (hlo : lo ≤ s + 1) : EF s d lo (pushAddr a) :=
  ⟨EffAt.pushAddr' s d a hd, FootAt.pushAddr s lo a hlo⟩

theorem EF.raise (e : Nat) : EF s d lo (raise e) :=
  ⟨EffAt.raise s d e, FootAt.of_foot (Foot.of_nowr (rel_raise (R := SameStack) e))⟩

theorem EF.error : EF s d lo (modify fun vm => { vm with running := 3 } : M PUnit) :=
  ⟨EffAt.stop s d _ fun _ => ⟨rfl, rfl, rfl, rfl⟩, FootAt.of_foot (Foot.of_nowr (rel_error (R := SameStack)))⟩

theorem EF.crash (w : String) : EF s d lo (crash w : M α) :=
  ⟨EffAt.crash s d w, FootAt.of_foot (Foot.of_nowr (Rel.crash (R := SameStack) w))⟩

theorem EF.exit (w : String) (o : List UInt8) : EF s d lo (exitVm w o : M α) :=
  ⟨EffAt.exit s d w o, FootAt.of_foot (Foot.of_nowr (Rel.exit (R := SameStack) w o))⟩

theorem EF.congr {f : M α} {d' lo' : Int} (h : EF s d' lo' f) (hd : d = d') (hlo : lo ≤ lo') : EF s d lo f :=
  ⟨EffAt.congr_d h.1 hd, fun vm a vm' hs hr j hj => h.2 vm a vm' hs hr j (by omega)⟩

/-- `f` moves `sp` by `d1` and writes nothing below `lo`; the rest is judged from `s + d1` -/
theorem EF.mov_bind {d1 : Int} {f : M α} {g : α → M β} (hm : MovAt s d1 f) (hf : FootAt s lo f) (hg : ∀ a, EF (s + d1) (d - d1) lo (g a)) :
    EF s d lo (f >>= g) :=
  ⟨EffAt.mov_bind hm (fun a => (hg a).1) (by omega), FootAt.mov_bind hm hf fun a => (hg a).2⟩

theorem EF.push_bind {a : Nat} {g : Unit → M β} (hlo : lo ≤ s + 1) (hg : ∀ u, EF (s + 1) (d - 1) lo (g u)) : EF s d lo (Vm.pushAddr a >>= g) :=
  EF.mov_bind (pushAddr_mov s a) (FootAt.pushAddr s lo a hlo) hg

/-- a popping loop that either pops `n` slots or raises (`popExts`, `popIndices`); nothing happens behind `none` -/
theorem EF.popOpt_bind {n : Nat} {f : M (Option α)} {g : Option α → M β} (hp : PopOpt s n f) (hf : NoWr f)
    (hnone : ∀ vm b vm', (g none).run vm = .ok (b, vm') → vm' = vm) (hsome : ∀ x, EF (s - (n : Int)) (d + n) lo (g (some x))) :
    EF s d lo (f >>= g) :=
  ⟨EffAt.popOpt_bind hp hnone (fun x => (hsome x).1) (by omega), FootAt.popOpt_bind hp (Foot.of_nowr hf) hnone fun x => (hsome x).2⟩

/-- a Boolean loop that keeps `sp` and answers `false` only after raising (`composeRanges`); nothing happens behind `false` -/
theorem EF.bool_bind {f : M Bool} {g : Bool → M β} (hq : Rel Quiet f) (hr : ∀ vm vm', f.run vm = .ok (false, vm') → vm'.running = 2)
    (ht : EF s d lo (g true)) (hfalse : ∀ vm b vm', (g false).run vm = .ok (b, vm') → vm' = vm) : EF s d lo (f >>= g) :=
  ⟨EffAt.bool_bind hq.keeps hr ht.1 hfalse, FootAt.bool_bind hq.keeps (Foot.of_nowr hq.nowr) ht.2 hfalse⟩

/-- a Boolean loop that pops `n` slots or answers `false` after raising (`rangeDerefLoop`) -/
theorem EF.boolmov_bind {n : Nat} {f : M Bool} {g : Bool → M β}
    (hp : ∀ vm r vm', vm.sp = s → f.run vm = .ok (r, vm') →
      vm'.fp = vm.fp ∧ vm'.pp = vm.pp ∧ vm'.stackSize = vm.stackSize ∧ (r = true → vm'.sp = s - (n : Int)) ∧ (r = false → vm'.running = 2))
    (hf : NoWr f) (ht : EF (s - (n : Int)) (d + n) lo (g true)) (hfalse : ∀ vm b vm', (g false).run vm = .ok (b, vm') → vm' = vm) :
    EF s d lo (f >>= g) :=
  ⟨EffAt.boolmov_bind hp ht.1 hfalse (by omega), FootAt.boolmov_bind hp (Foot.of_nowr hf) ht.2 hfalse⟩

theorem EF.allocLoop (n : Nat) (hd : d = n) (hlo : lo ≤ s + 1) : EF s d lo (Vm.allocLoop n) :=
  ⟨EffAt.congr_d (allocLoop_mov n s).toEff hd, allocLoop_foot n s lo hlo⟩

theorem EF.unpackLoop (sp : Int) (fs : List Nat) (size i : Nat) (hd : d = 0) (hlo : lo ≤ sp) : EF s d lo (Vm.unpackLoop sp fs size i) :=
  ⟨EffAt.of_keeps' (rel_unpackLoop (R := SameRegs) sp fs size i) hd, FootAt.of_foot (foot_unpackLoop lo sp fs size hlo i)⟩

/-- nothing happens behind the `none` / `false` answer of a popping loop: the branch is `pure ()` -/
macro "ef_idle" : tactic => `(tactic| (intro vm b vm' hr; simp only [Bool.false_eq_true, ↓reduceIte] at hr; exact ((run_pure_ok _ _ _ _).mp hr).2))

/-- proves `EF s d lo f` for a handler built from the helpers: follows `sp` through `getSp`/`setSp`, asks `vm_rel` about every
block that keeps registers and stack, and `omega` about the index of every store -/
syntax "ef" : tactic
macro_rules
  | `(tactic| ef) => `(tactic|
      first
      | (with_reducible refine EF.getSp_bind ?_); ef
      | (with_reducible refine EF.setSp_then _ (fun _ => ?_)); ef
      | (with_reducible refine EF.wr_bind ?hlo (fun _ => ?hg)); (case hlo => omega); (case hg => ef)
      | (with_reducible refine EF.quiet_bind ?hq (fun _ => ?hg)); (case hq => vm_rel); (case hg => ef)
      | (fail_if_success (with_reducible refine EF.quiet_bind ?hq (fun _ => ?hg))
         first
         | (with_reducible refine EF.setSp ?hv); omega
         | (with_reducible refine EF.wrSlot ?h1 ?h2) <;> omega
         | (with_reducible refine EF.pushAddr ?h1 ?h2) <;> omega
         | (with_reducible refine EF.allocLoop _ ?h1 ?h2) <;> omega
         | (with_reducible refine EF.unpackLoop _ _ _ _ ?h1 ?h2) <;> omega
         | with_reducible exact EF.raise _
         | with_reducible exact EF.error
         | with_reducible exact EF.crash _
         | with_reducible exact EF.exit _ _
         | (with_reducible refine EF.quiet ?hq ?hd); (case hd => omega); (case hq => vm_rel)
         | (split <;> ef)
         | (fail_if_success split; dsimp only; ef))
      | (with_reducible refine EF.push_bind ?hlo (fun _ => ?hg)); (case hlo => omega); (case hg => ef)
      | (with_reducible refine EF.mov_bind (popAddrs_mov _ _) (FootAt.of_foot (Foot.of_nowr (NoWr.of_rel (rel_popAddrs _)))) (fun _ => ?_)); ef
      | (with_reducible refine EF.mov_bind (popInts_mov _ _) (FootAt.of_foot (Foot.of_nowr (NoWr.of_rel (rel_popInts _)))) (fun _ => ?_)); ef
      | (with_reducible refine EF.popOpt_bind (popExts_spec _ _) (NoWr.of_rel (rel_popExts _)) ?hn (fun _ => ?hg)); (case hn => ef_idle); (case hg => ef)
      | (with_reducible refine EF.popOpt_bind (popIndices_spec _ _) (NoWr.of_rel (rel_popIndices _)) ?hn (fun _ => ?hg)); (case hn => ef_idle); (case hg => ef)
      | (with_reducible refine EF.bool_bind (rel_composeRanges _ _ _ _ _) (composeRanges_false _ _ _ _ _) ?ht ?hf); (case hf => ef_idle); (case ht => simp only [↓reduceIte]; ef)
      | (with_reducible refine EF.boolmov_bind (fun vm r vm' hs hr => rangeDerefLoop_spec _ _ _ _ _ vm r vm' hs hr) (NoWr.of_rel (rel_rangeDerefLoop _ _ _ _)) ?ht ?hf); (case hf => ef_idle); (case ht => simp only [↓reduceIte]; ef)
      | (with_reducible_and_instances refine EF.quiet (rel_append _ _) ?hd); omega)

end Never.Vm
