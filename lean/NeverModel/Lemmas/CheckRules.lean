import NeverModel.Lemmas.CheckProg
set_option linter.unusedVariables false
/-! # the rules of the catalogue, locally (in a given symbol table) — and the declarative
specification of "a value of this kind may be passed / returned here" -/
namespace Never.Tc

/-! ## S: which kinds of values a parameter (or a function result) accepts -/

mutual
/-- the same type up to the constness of array elements and function results -/
inductive SameTy : Ty → Ty → Prop
  | bool : SameTy .bool .bool
  | int : SameTy .int .int
  | long : SameTy .long .long
  | float : SameTy .float .float
  | double : SameTy .double .double
  | char : SameTy .char .char
  | string : SameTy .string .string
  | record (s : String) : SameTy (.record s) (.record s)
  | enum (s : String) : SameTy (.enum s) (.enum s)
  | array (n : Nat) (c1 c2 : PCst) (e1 e2 : Ty) : SameTy e1 e2 → SameTy (.array n c1 e1) (.array n c2 e2)
  | range (n : Nat) : SameTy (.range n) (.range n)
  | slice (n : Nat) (c1 c2 : PCst) (e1 e2 : Ty) : SameTy e1 e2 → SameTy (.slice n c1 e1) (.slice n c2 e2)
  | tuple (ms1 ms2 : TyList) : SameMembers ms1 ms2 → SameTy (.tuple ms1) (.tuple ms2)
  | func (ps1 ps2 : TyList) (rc1 rc2 : PCst) (r1 r2 : Ty) :
      SameTys ps1 ps2 → SameTy r1 r2 → SameTy (.func ps1 rc1 r1) (.func ps2 rc2 r2)
/-- parameter lists: same length, same constness, same types -/
inductive SameTys : TyList → TyList → Prop
  | nil : SameTys .nil .nil
  | cons (c : PCst) (t1 t2 : Ty) (r1 r2 : TyList) :
      SameTy t1 t2 → SameTys r1 r2 → SameTys (.cons c t1 r1) (.cons c t2 r2)
/-- members of a tuple: same length, same types (their constness is not part of the type) -/
inductive SameMembers : TyList → TyList → Prop
  | nil : SameMembers .nil .nil
  | cons (c1 c2 : PCst) (t1 t2 : Ty) (r1 r2 : TyList) :
      SameTy t1 t2 → SameMembers r1 r2 → SameMembers (.cons c1 t1 r1) (.cons c2 t2 r2)
end

/-- the language rule: numeric kinds convert into each other, an enum value converts to int,
everything else must be the same type -/
inductive Accepts : Ty → CT → Prop
  | bool : Accepts .bool (.val .bool)
  | num (p a : Ty) : isNum p = true → isNum a = true → Accepts p (.val a)
  | enumToInt (e : String) : Accepts .int (.val (.enum e))
  | char : Accepts .char (.val .char)
  | string : Accepts .string (.val .string)
  | array (n : Nat) (c1 c2 : PCst) (e1 e2 : Ty) : SameTy e1 e2 → Accepts (.array n c1 e1) (.val (.array n c2 e2))
  | range (n : Nat) : Accepts (.range n) (.val (.range n))
  | slice (n : Nat) (c1 c2 : PCst) (e1 e2 : Ty) : SameTy e1 e2 → Accepts (.slice n c1 e1) (.val (.slice n c2 e2))
  | tuple (ms1 ms2 : TyList) : SameMembers ms1 ms2 → Accepts (.tuple ms1) (.val (.tuple ms2))
  | record (s : String) : Accepts (.record s) (.val (.record s))
  | recordId (s : String) : Accepts (.record s) (.recordId s)
  | enum (s : String) : Accepts (.enum s) (.val (.enum s))
  | func (ps1 ps2 : TyList) (rc1 rc2 : PCst) (r1 r2 : Ty) :
      SameTys ps1 ps2 → SameTy r1 r2 → Accepts (.func ps1 rc1 r1) (.val (.func ps2 rc2 r2))

/-- `param_cmp` only says yes to the same type (`long`/`double` never pass: it is too strict
there, never too lax); a parameter list also has the same constness throughout when that is compared -/
theorem paramCmp_sound_both :
    (∀ cc c1 t1 c2 t2, paramCmp cc c1 t1 c2 t2 = true → SameTy t1 t2) ∧
    (∀ cc ps1 ps2, paramListCmp cc ps1 ps2 = true →
      SameMembers ps1 ps2 ∧ (cc = true → SameTys ps1 ps2)) := by
  apply paramCmp.mutual_induct
  case case1 =>
    intro t cc c1 c2 t2 hc h
    unfold paramCmp at h
    rw [if_pos hc] at h
    cases h
  case case2 => exact fun _ _ _ _ _ => .bool
  case case3 => exact fun _ _ _ _ _ => .int
  case case4 => exact fun _ _ _ _ _ => .float
  case case5 => exact fun _ _ _ _ _ => .char
  case case6 => exact fun _ _ _ _ _ => .string
  case case7 =>
    intro cc c1 c2 hc n1 ec1 e1 n2 ec2 e2 ih h
    simp only [paramCmp, hc, Bool.false_eq_true, ↓reduceIte, Bool.and_eq_true, beq_iff_eq] at h
    obtain ⟨rfl, he⟩ := h
    exact .array _ _ _ _ _ (ih he)
  case case8 =>
    intro cc c1 c2 hc n1 n2 h
    simp only [paramCmp, hc, Bool.false_eq_true, ↓reduceIte, beq_iff_eq] at h
    exact h ▸ .range _
  case case9 =>
    intro cc c1 c2 hc n1 ec1 e1 n2 ec2 e2 ih h
    simp only [paramCmp, hc, Bool.false_eq_true, ↓reduceIte, Bool.and_eq_true, beq_iff_eq] at h
    obtain ⟨rfl, he⟩ := h
    exact .slice _ _ _ _ _ (ih he)
  case case10 =>
    intro cc c1 c2 hc a b h
    simp only [paramCmp, hc, Bool.false_eq_true, ↓reduceIte, beq_iff_eq] at h
    exact h ▸ .enum _
  case case11 =>
    intro cc c1 c2 hc a b h
    simp only [paramCmp, hc, Bool.false_eq_true, ↓reduceIte, beq_iff_eq] at h
    exact h ▸ .record _
  case case12 =>
    intro cc c1 c2 hc ps1 rc1 r1 ps2 rc2 r2 ihp ihr h
    simp only [paramCmp, hc, Bool.false_eq_true, ↓reduceIte, Bool.and_eq_true] at h
    exact .func _ _ _ _ _ _ ((ihp h.1).2 rfl) (ihr h.2)
  case case13 =>
    intro cc c1 c2 hc ms1 ms2 ih h
    simp only [paramCmp, hc, Bool.false_eq_true, ↓reduceIte] at h
    exact .tuple _ _ (ih h).1
  case case14 =>
    intro t cc c1 c2 t2 hc h1 h2 h3 h4 h5 h6 h7 h8 h9 h10 h11 h12 h
    simp [paramCmp, *] at h
  case case15 => exact fun _ _ => ⟨.nil, fun _ => .nil⟩
  case case16 =>
    intro cc c1 t1 r1 c2 t2 r2 iht ihr h
    simp only [paramListCmp, Bool.and_eq_true] at h
    refine ⟨.cons _ _ _ _ _ _ (iht h.1) (ihr h.2).1, fun hcc => ?_⟩
    have hc : c1 = c2 := by
      have := h.1
      unfold paramCmp at this
      subst hcc
      by_cases hcc : c1 = c2
      · exact hcc
      · simp [hcc] at this
    subst hc
    exact .cons _ _ _ _ _ (iht h.1) ((ihr h.2).2 hcc)
  case case17 =>
    intro t cc x h1 h2 h
    simp [paramListCmp, *] at h

theorem paramCmp_sound (t1 : Ty) (cc : Bool) (c1 c2 : PCst) (t2 : Ty)
    (h : paramCmp cc c1 t1 c2 t2 = true) : SameTy t1 t2 :=
  paramCmp_sound_both.1 cc c1 t1 c2 t2 h

theorem paramListCmpNC_sound (ps1 ps2 : TyList) (h : paramListCmp false ps1 ps2 = true) :
    SameMembers ps1 ps2 :=
  (paramCmp_sound_both.2 false ps1 ps2 h).1

theorem paramListCmp_sound (ps1 ps2 : TyList) (h : paramListCmp true ps1 ps2 = true) : SameTys ps1 ps2 :=
  (paramCmp_sound_both.2 true ps1 ps2 h).2 rfl

/-! ### history: `param_cmp` as it was in the pinned tree (032f4cb), before 186dfd9 -/

mutual
/-- the pinned `param_cmp`: `func_cmp(one.params, one.ret, two.params, one.ret)` — the result
type of the second function type was never looked at -/
def paramCmpPinned (constCmp : Bool) (c1 : PCst) (t1 : Ty) (c2 : PCst) (t2 : Ty) : Bool :=
  if constCmp && c1 != c2 then false else
  match t1, t2 with
  | .bool, .bool => true
  | .int, .int => true
  | .float, .float => true
  | .char, .char => true
  | .string, .string => true
  | .array _ ec1 e1, .array _ ec2 e2 => paramCmpPinned false ec1 e1 ec2 e2
  | .enum a, .enum b => a == b
  | .record a, .record b => a == b
  | .func ps1 rc1 r1, .func ps2 _ _ =>
      paramListCmpPinned true ps1 ps2 && paramCmpPinned false rc1 r1 rc1 r1
  | _, _ => false
def paramListCmpPinned (constCmp : Bool) : TyList → TyList → Bool
  | .nil, .nil => true
  | .cons c1 t1 r1, .cons c2 t2 r2 =>
      paramCmpPinned constCmp c1 t1 c2 t2 && paramListCmpPinned constCmp r1 r2
  | _, _ => false
end

/-- soundness of `param_expr_cmp` against the declarative rule, for every parameter type -/
theorem paramExprCmp_sound (cc : Bool) (pc : PCst) (pt : Ty) (ln : Ln) (c : Comb)
    (h : paramExprCmp cc pc pt ln c = .ok) : Accepts pt c.ct := by
  obtain ⟨ct, cst⟩ := c
  unfold paramExprCmp at h
  dsimp only at h ⊢
  split at h
  · cases h
  · split at h
    · exact .bool
    · split at h
      · exact .num _ _ rfl ‹_›
      · split at h
        · exact .enumToInt _
        · cases h
    · split at h
      · exact .num _ _ rfl ‹_›
      · cases h
    · split at h
      · exact .num _ _ rfl ‹_›
      · cases h
    · split at h
      · exact .num _ _ rfl ‹_›
      · cases h
    · exact .char
    · exact .string
    · split at h
      · rename_i hc
        simp only [Bool.and_eq_true, beq_iff_eq] at hc
        obtain ⟨rfl, he⟩ := hc
        exact .array _ _ _ _ _ (paramCmp_sound _ _ _ _ _ he)
      · cases h
    · split at h
      · rename_i hc
        cases beq_iff_eq.1 hc
        exact .range _
      · cases h
    · split at h
      · rename_i hc
        simp only [Bool.and_eq_true, beq_iff_eq] at hc
        obtain ⟨rfl, he⟩ := hc
        exact .slice _ _ _ _ _ (paramCmp_sound _ _ _ _ _ he)
      · cases h
    · split at h
      · exact .tuple _ _ (paramListCmpNC_sound _ _ ‹_›)
      · cases h
    · split at h
      · rename_i hc
        cases beq_iff_eq.1 hc
        exact .record _
      · cases h
    · split at h
      · rename_i hc
        cases beq_iff_eq.1 hc
        exact .recordId _
      · cases h
    · split at h
      · rename_i hc
        cases beq_iff_eq.1 hc
        exact .enum _
      · cases h
    · split at h
      · rename_i hc
        simp only [funcCmp, Bool.and_eq_true] at hc
        exact .func _ _ _ _ _ _ (paramListCmp_sound _ _ hc.1) (paramCmp_sound _ _ _ _ _ hc.2)
      · cases h
    · cases h
/-! ## the rules, in a given table -/

theorem tc_id_undef {Γ : Env} {ln : Ln} {x : String} (h : Γ.lookup x = none) :
    tc Γ (.id ln x) = .error ⟨ln, .undefId⟩ := by
  simp [tc, h]

theorem tc_attr_undef {Γ : Env} {ln : Ln} {r : Expr} {fld : String} {cr : Comb} {s : String}
    (hr : tc Γ r = .ok cr) (hrec : cr.ct = .val (.record s) ∨ cr.ct = .recordId s)
    (hf : findField (Γ.recordFields s) fld = none) :
    tc Γ (.attr ln r fld) = .error ⟨ln, .undefAttr⟩ := by
  cases hrec with
  | inl h => simp [tc, hr, h, hf]
  | inr h => simp [tc, hr, h, hf]

/-- an identifier that is a `let` binding, or a parameter not declared `var`, is CONST -/
def constEntry : Entry → Bool
  | .bind false _ => true
  | .param c _ => c != .var
  | _ => false

theorem tc_assign_const {Γ : Env} {ln lx : Ln} {x : String} {rhs : Expr} {ent : Entry} {cr : Comb}
    (hx : Γ.lookup x = some ent) (hc : constEntry ent = true) (hr : tc Γ rhs = .ok cr) :
    tc Γ (.ass ln (.id lx x) rhs) = .error ⟨ln, .assignConst⟩ := by
  cases ent with
  | bind v ct =>
    cases v <;> simp [constEntry] at hc
    simp [tc, hx, hr, idComb, isVarCst]
  | param c t =>
    cases c <;> simp [constEntry] at hc <;> simp [tc, hx, hr, idComb, isVarCst, PCst.toCst]
  | _ => simp [constEntry] at hc

/-- more generally: the left side is anything whose constness is not VAR (a call result without
`var`, an element of a `let` array, a loop, …) -/
theorem tc_assign_nonvar {Γ : Env} {ln : Ln} {l rhs : Expr} {cl cr : Comb}
    (hl : tc Γ l = .ok cl) (hc : cl.cst ≠ .var) (hr : tc Γ rhs = .ok cr) :
    tc Γ (.ass ln l rhs) = .error ⟨ln, .assignConst⟩ := by
  have : isVarCst cl = false := by
    simp only [isVarCst]
    cases h : cl.cst <;> simp_all
  simp [tc, hl, hr, this]

theorem tc_call_arity {Γ : Env} {ln : Ln} {f : Expr} {args : ExprList} {cf : Comb}
    {cs : List (Ln × Comb)} {ps : TyList} {rc : PCst} {r : Ty}
    (hf : tc Γ f = .ok cf) (hct : cf.ct = .val (.func ps rc r)) (ha : tcArgs Γ args = .ok cs)
    (hlen : ps.toList.length ≠ cs.length) :
    tc Γ (.call ln f args) = .error ⟨ln, .callMismatch⟩ := by
  simp [tc, hf, hct, ha, paramExprListCmp, hlen, CmpRes.toExcept]

/-- a message of `param_expr_cmp` is at the argument's line -/
theorem paramExprCmp_fail_line {cc : Bool} {pc : PCst} {pt : Ty} {eln : Ln} {c : Comb} {d : Diag}
    (h : paramExprCmp cc pc pt eln c = .fail (some d)) : d.line = eln := by
  unfold paramExprCmp at h
  split at h
  · cases h
    rfl
  · split at h <;> (try split at h) <;> (try split at h) <;> cases h <;> rfl

/-- some argument is of a kind the parameter does not accept -/
def SomeArgRejected : List (PCst × Ty) → List (Ln × Comb) → Prop
  | (_, pt) :: ps, (_, c) :: cs => ¬ Accepts pt c.ct ∨ SomeArgRejected ps cs
  | _, _ => False

/-- the walk over an argument list with a rejected argument fails; a message of its own is at
the line of one of the arguments -/
theorem paramExprListGo_rejects (cc : Bool) : (ps : List (PCst × Ty)) → (cs : List (Ln × Comb)) →
    SomeArgRejected ps cs →
    ∃ od, paramExprListGo cc ps cs = .fail od ∧ ∀ d, od = some d → ∃ a ∈ cs, d.line = a.1
  | [], _, h => h.elim
  | _ :: _, [], h => h.elim
  | (pc, pt) :: ps, (eln, c) :: cs, h => by
    rw [paramExprListGo]
    cases h1 : paramExprCmp cc pc pt eln c with
    | fail od =>
      exact ⟨od, rfl, fun d hd => ⟨(eln, c), List.mem_cons_self, paramExprCmp_fail_line (hd ▸ h1)⟩⟩
    | ok =>
      obtain ⟨od, hgo, hl⟩ := paramExprListGo_rejects cc ps cs
        (h.resolve_left (not_not_intro (paramExprCmp_sound cc pc pt eln c h1)))
      exact ⟨od, hgo, fun d hd => (hl d hd).imp fun a ha => ⟨List.mem_cons_of_mem _ ha.1, ha.2⟩⟩

/-- `param_expr_list_cmp` on a list with a rejected argument: the diagnostic is the caller's, or
one at the line of an argument -/
theorem paramExprListCmp_rejects (cc : Bool) (ps : List (PCst × Ty)) (cs : List (Ln × Comb)) (dflt : Diag)
    (hbad : SomeArgRejected ps cs) :
    ∃ d, (paramExprListCmp cc ps cs).toExcept dflt = .error d ∧ (d = dflt ∨ ∃ a ∈ cs, d.line = a.1) := by
  unfold paramExprListCmp
  split
  · exact ⟨dflt, rfl, .inl rfl⟩
  · obtain ⟨od, hgo, hl⟩ := paramExprListGo_rejects cc ps cs hbad
    rw [hgo]
    cases od with
    | none => exact ⟨dflt, rfl, .inl rfl⟩
    | some d => exact ⟨d, rfl, .inr (hl d rfl)⟩

theorem tc_call_kind {Γ : Env} {ln : Ln} {f : Expr} {args : ExprList} {cf : Comb}
    {cs : List (Ln × Comb)} {ps : TyList} {rc : PCst} {r : Ty}
    (hf : tc Γ f = .ok cf) (hct : cf.ct = .val (.func ps rc r)) (ha : tcArgs Γ args = .ok cs)
    (hbad : SomeArgRejected ps.toList cs) :
    ∃ d, tc Γ (.call ln f args) = .error d ∧ (d.line = ln ∨ ∃ a ∈ cs, d.line = a.1) := by
  obtain ⟨d, hd, hl⟩ := paramExprListCmp_rejects true ps.toList cs ⟨ln, .callMismatch⟩ hbad
  refine ⟨d, ?_, hl.imp (fun h : d = _ => h ▸ rfl) id⟩
  rw [tc, hf, bind_ok, ha, bind_ok]
  simp only [hct, hd, bind_err]

theorem tc_bin_incompat {Γ : Env} {ln : Ln} {op : BinOp} {l r : Expr} {cl cr : Comb} {tl tr : Ty}
    (hl : tc Γ l = .ok cl) (hr : tc Γ r = .ok cr) (htl : cl.ct = .val tl) (htr : cr.ct = .val tr)
    (hop : binTy op tl tr = none) : tc Γ (.bin ln op l r) = .error ⟨ln, binRule op⟩ := by
  simp [tc, hl, hr, htl, htr, hop]

theorem tc_un_incompat {Γ : Env} {ln : Ln} {op : UnOp} {e : Expr} {c : Comb} {t : Ty}
    (he : tc Γ e = .ok c) (ht : c.ct = .val t) (hop : unTy op t = none) :
    tc Γ (.un ln op e) = .error ⟨ln, unRule op⟩ := by
  simp [tc, he, ht, hop]

theorem tc_cond_nonbool {Γ : Env} {ln : Ln} {c t e : Expr} {cc ct ce : Comb}
    (hc : tc Γ c = .ok cc) (ht : tc Γ t = .ok ct) (he : tc Γ e = .ok ce)
    (hb : isBool cc.ct = false) : tc Γ (.cond ln c t e) = .error ⟨ln, .condNotBool⟩ := by
  simp [tc, hc, ht, he, hb]

theorem tc_while_nonbool {Γ : Env} {ln : Ln} {c b : Expr} {cc cb : Comb}
    (hc : tc Γ c = .ok cc) (hbd : tc Γ b = .ok cb) (hb : isBool cc.ct = false) :
    tc Γ (.while_ ln c b) = .error ⟨ln, .whileNotBool⟩ := by
  simp [tc, hc, hbd, hb]

theorem tc_match_missing {Γ : Env} {ln : Ln} {s : Expr} {g : Guard} {gs : GuardList} {cs : Comb}
    {en : String} {arms : List Comb}
    (hs : tc Γ s = .ok cs) (hen : cs.ct = .val (.enum en))
    (hg : tcGuards Γ (.cons g gs) = .ok arms) (hsame : guardsSameEnum en (.cons g gs) = .ok ())
    (hex : exhaustive Γ en (.cons g gs) = false) :
    tc Γ (.match_ ln s (.cons g gs)) = .error ⟨ln, .matchMissing⟩ := by
  simp [tc, hs, hen, hg, hsame, hex]

/-- `exhaustive` fails exactly when there is no `else` and some enumerator has no guard -/
theorem not_exhaustive_iff (Γ : Env) (en : String) (gs : GuardList) :
    exhaustive Γ en gs = false ↔ hasElse gs = false ∧ ∃ it ∈ Γ.enumItems en, coversItem it gs = false := by
  simp [exhaustive]

/-! ## D11: branches, tuples, array shape, for-in, pipes, the mark flags -/

/-- the two branches of `?:` / if-else are compared by `expr_comb_cmp_and_set` -/
theorem tc_cond_branches {Γ : Env} {ln : Ln} {c t e : Expr} {cc ct ce : Comb} {r : Rule}
    (hc : tc Γ c = .ok cc) (ht : tc Γ t = .ok ct) (he : tc Γ e = .ok ce)
    (hb : isBool cc.ct = true) (hcmp : combCmp ct.ct ce.ct = .error r) :
    tc Γ (.cond ln c t e) = .error ⟨ln, r⟩ := by
  simp [tc, hc, ht, he, hb, hcmp]

/-- the two branches of `if let (En::it = e) t else f` are compared the same way -/
theorem tc_iflet_branches {Γ : Env} {ln gln : Ln} {en it : String} {e t f : Expr} {ce ct cf : Comb} {r : Rule}
    (he : tc Γ e = .ok ce) (hen : ce.ct = .val (.enum en)) (hg : guardItemPre Γ gln en it = .ok ())
    (ht : tc Γ t = .ok ct) (hf : tc Γ f = .ok cf) (hcmp : combCmp ct.ct cf.ct = .error r) :
    tc Γ (.ifLet ln gln en it e t f) = .error ⟨ln, r⟩ := by
  simp [tc, he, hen, hg, ht, hf, hcmp]

/-- … and the guard must name the enum of the tested value -/
theorem tc_iflet_other_enum {Γ : Env} {ln gln : Ln} {en en' it : String} {e t f : Expr} {ce ct cf : Comb}
    (he : tc Γ e = .ok ce) (hen : ce.ct = .val (.enum en')) (hg : guardItemPre Γ gln en it = .ok ())
    (ht : tc Γ t = .ok ct) (hf : tc Γ f = .ok cf) (hne : en' ≠ en) :
    tc Γ (.ifLet ln gln en it e t f) = .error ⟨ln, .matchGuardDiffers⟩ := by
  simp [tc, he, hen, hg, ht, hf, hne]

/-- two tuple types whose member lists `param_list_cmp` tells apart are not unified -/
theorem combCmp_tuple (ms1 ms2 : TyList) (h : paramListCmp false ms1 ms2 = false) :
    combCmp (.val (.tuple ms1)) (.val (.tuple ms2)) = .error .condBranches := by
  simp [combCmp, h]

theorem combCmp_range (n1 n2 : Nat) (h : n1 ≠ n2) :
    combCmp (.val (.range n1)) (.val (.range n2)) = .error .branchRanges := by
  simp [combCmp, h]

theorem combCmp_array (n1 n2 : Nat) (c1 c2 : PCst) (e1 e2 : Ty)
    (h : (n1 == n2 && paramCmp false c1 e1 c2 e2) = false) :
    combCmp (.val (.array n1 c1 e1)) (.val (.array n2 c2 e2)) = .error .branchArrays := by
  simp only [combCmp, h]; rfl

theorem combCmp_slice (n1 n2 : Nat) (c1 c2 : PCst) (e1 e2 : Ty)
    (h : (n1 == n2 && paramCmp false c1 e1 c2 e2) = false) :
    combCmp (.val (.slice n1 c1 e1)) (.val (.slice n2 c2 e2)) = .error .branchSlices := by
  simp only [combCmp, h]; rfl

theorem combCmp_func (ps1 ps2 : TyList) (c1 c2 : PCst) (r1 r2 : Ty)
    (h : funcCmp ps1 c1 r1 ps2 c2 r2 = false) :
    combCmp (.val (.func ps1 c1 r1)) (.val (.func ps2 c2 r2)) = .error .branchFuncs := by
  simp only [combCmp, h]; rfl

/-- member lists of different length are told apart -/
theorem paramListCmp_length (cc : Bool) : (ms1 ms2 : TyList) → ms1.length ≠ ms2.length →
    paramListCmp cc ms1 ms2 = false
  | .nil, .nil, h => by simp [TyList.length] at h
  | .nil, .cons _ _ _, _ => by simp [paramListCmp]
  | .cons _ _ _, .nil, _ => by simp [paramListCmp]
  | .cons c1 t1 r1, .cons c2 t2 r2, h => by
    have := paramListCmp_length cc r1 r2 (by simpa [TyList.length] using h)
    simp [paramListCmp, this]

/-- the arms of a `match`: the first against each later one -/
theorem tc_match_arms {Γ : Env} {ln : Ln} {s : Expr} {g : Guard} {gs : GuardList} {cs : Comb}
    {en : String} {a : Comb} {rest : List Comb} {r : Rule}
    (hs : tc Γ s = .ok cs) (hen : cs.ct = .val (.enum en))
    (hg : tcGuards Γ (.cons g gs) = .ok (a :: rest)) (hsame : guardsSameEnum en (.cons g gs) = .ok ())
    (hex : exhaustive Γ en (.cons g gs) = true) (hcmp : armsCmp a.ct rest = .error r) :
    tc Γ (.match_ ln s (.cons g gs)) = .error ⟨ln, r⟩ := by
  simp [tc, hs, hen, hg, hsame, hex, hcmp]

theorem tc_tuple_arity {Γ : Env} {ln : Ln} {elems : ExprList} {ms ms' : TyList} {cs : List (Ln × Comb)}
    (he : tcArgs Γ elems = .ok cs) (hm : resolveTys Γ ms.defaultVar = .ok ms')
    (hlen : ms'.toList.length ≠ cs.length) :
    tc Γ (.tuple ln elems ms) = .error ⟨ln, .tupleForm⟩ := by
  simp [tc, he, hm, paramExprListCmp, hlen, CmpRes.toExcept]

theorem tc_tuple_kind {Γ : Env} {ln : Ln} {elems : ExprList} {ms ms' : TyList} {cs : List (Ln × Comb)}
    (he : tcArgs Γ elems = .ok cs) (hm : resolveTys Γ ms.defaultVar = .ok ms')
    (hbad : SomeArgRejected ms'.toList cs) :
    ∃ d, tc Γ (.tuple ln elems ms) = .error d ∧ (d.line = ln ∨ ∃ a ∈ cs, d.line = a.1) := by
  obtain ⟨d, hd, hl⟩ := paramExprListCmp_rejects false ms'.toList cs ⟨ln, .tupleForm⟩ hbad
  refine ⟨d, ?_, hl.imp (fun h : d = _ => h ▸ rfl) id⟩
  rw [tc, he, bind_ok, hm, bind_ok, hd]
  rfl

theorem tc_proj_bounds {Γ : Env} {ln iln : Ln} {e : Expr} {i : Nat} {c : Comb} {ms : TyList}
    (he : tc Γ e = .ok c) (hct : c.ct = .val (.tuple ms)) (hi : ms.get? i = none) :
    tc Γ (.proj ln e iln i) = .error ⟨ln, .tupleIndex⟩ := by
  simp [tc, he, hct, hi]

theorem TyList.get?_none : (ms : TyList) → (i : Nat) → ms.length ≤ i → ms.get? i = none
  | .nil, _, _ => rfl
  | .cons _ _ r, 0, h => by simp [TyList.length] at h
  | .cons _ _ r, i + 1, h => by
    simp only [TyList.get?]
    exact TyList.get?_none r i (by simpa [TyList.length] using h)

/-! ### array literal shape -/

/-- rows of a level, as `array_depth_list_well_formed` meets them (last row first): the first
fixes the count, a later row with another count — an EMPTY one included — is refused -/
theorem checkRowsSame_differs (n : Nat) : (cnts : List Nat) → (∃ m ∈ cnts, m ≠ n) →
    checkRowsSame n (cnts.map Item.sub) = .error ⟨0, .arrayShape⟩
  | [], h => by simp at h
  | m :: r, h => by
    simp only [List.map, checkRowsSame]
    by_cases hm : m = n
    · subst hm
      simp
      apply checkRowsSame_differs m r
      obtain ⟨m', hm', hne⟩ := h
      cases hm' with
      | head => exact absurd rfl hne
      | tail _ ht => exact ⟨m', ht, hne⟩
    · simp [hm]

theorem checkRows_differs (n : Nat) (cnts : List Nat) (h : ∃ m ∈ cnts, m ≠ n) :
    checkRows ((n :: cnts).map Item.sub) = .error ⟨0, .arrayShape⟩ := by
  simp only [List.map, checkRows]
  exact checkRowsSame_differs n cnts h

/-- a two-level literal `[ row_1, …, row_k ] : T` whose rows do not all have the length of the
last one: refused with the shape diagnostic (which the C code prints at line 0: a row has no
line of its own; "array is not well formed" at the literal's line follows) -/
theorem tc_array_ragged {Γ : Env} {ln : Ln} {elems : ExprList} {ec : PCst} {ety et : Ty}
    {cnts : List Nat} {n : Nat} {leaves : List Item}
    (hrows : tcRows Γ elems = .ok [(cnts ++ [n]).map Item.sub, leaves])
    (hty : resolveTy Γ ety = .ok et)
    (hleaves : checkDeepest ec.normVar et leaves.reverse = .ok ())
    (hdiff : ∃ m ∈ cnts, m ≠ n) :
    tc Γ (.array ln elems ec ety) = .error ⟨0, .arrayShape⟩ := by
  have hr : checkRows (Item.sub n :: (List.map Item.sub cnts).reverse) = .error ⟨0, .arrayShape⟩ := by
    have : Item.sub n :: (List.map Item.sub cnts).reverse = (n :: cnts.reverse).map Item.sub := by
      simp [List.map_reverse]
    rw [this]
    apply checkRows_differs
    obtain ⟨m, hm, hne⟩ := hdiff
    exact ⟨m, by simpa using hm, hne⟩
  simp [tc, hrows, hty, wellFormed, hleaves, checkShallow, hr]

/-! ### for-in -/

/-- the iterator of a for-in over a CONST one-dimensional array is CONST: assigning to it in the
loop body is refused at the assignment -/
theorem tc_forin_assign_const {Γ : Env} {ln la lx : Ln} {x : String} {a rhs : Expr} {ca cr : Comb}
    {n : Nat} {ec : PCst} {et : Ty}
    (ha : tc Γ a = .ok ca) (hct : ca.ct = .val (.array n ec et)) (hn : n = 1) (hconst : ca.cst = .const)
    (hr : tc (Γ.push [(x, .forin ⟨.val et, .const⟩)]) rhs = .ok cr) :
    tc Γ (.forIn ln x a (.ass la (.id lx x) rhs)) = .error ⟨la, .assignConst⟩ := by
  subst hn
  have hit : forinIter ca = some ⟨.val et, .const⟩ := by simp [forinIter, hct, hconst]
  have hlook : (Γ.push [(x, .forin ⟨.val et, .const⟩)]).lookup x = some (.forin ⟨.val et, .const⟩) := by
    simp [Env.lookup, Env.push, lookupScopes, Scope.find]
  simp [tc, ha, hit, hr, hlook, idComb, isVarCst]

/-- the same for a range (its elements are `let int`) -/
theorem tc_forin_assign_range {Γ : Env} {ln la lx : Ln} {x : String} {a rhs : Expr} {ca cr : Comb}
    (ha : tc Γ a = .ok ca) (hct : ca.ct = .val (.range 1))
    (hr : tc (Γ.push [(x, .forin ⟨.val .int, .const⟩)]) rhs = .ok cr) :
    tc Γ (.forIn ln x a (.ass la (.id lx x) rhs)) = .error ⟨la, .assignConst⟩ := by
  have hit : forinIter ca = some ⟨.val .int, .const⟩ := by simp [forinIter, hct]
  have hlook : (Γ.push [(x, .forin ⟨.val .int, .const⟩)]).lookup x = some (.forin ⟨.val .int, .const⟩) := by
    simp [Env.lookup, Env.push, lookupScopes, Scope.find]
  simp [tc, ha, hit, hr, hlook, idComb, isVarCst]

/-! ### pipes -/

/-- `expr_complr_check_type`: how the parameters are compared with the piped value and the arguments -/
def pipeRes (ps : TyList) (l : Expr) (cl : Comb) (cs : List (Ln × Comb)) : CmpRes :=
  match cl.ct with
  | .val (.tuple ms) => pipeTupleCmp ps.toList ms.toList cs
  | _ => pipeCmp ps.toList (l.ln, cl) cs

/-- a comparison that fails without a message of its own is reported at the pipe -/
theorem tc_pipe_silent {Γ : Env} {ln : Ln} {l f : Expr} {args : ExprList} {cl cf : Comb}
    {cs : List (Ln × Comb)} {ps : TyList} {rc : PCst} {r : Ty}
    (hl : tc Γ l = .ok cl) (hf : tc Γ f = .ok cf) (hct : cf.ct = .val (.func ps rc r))
    (ha : tcArgs Γ args = .ok cs) (hres : pipeRes ps l cl cs = .fail none) :
    tc Γ (.pipe ln l f args) = .error ⟨ln, .callMismatch⟩ := by
  simp only [tc, hl, hf, ha, hct, bind_ok]
  unfold pipeRes at hres
  split at hres <;> simp only [*] <;> rfl

/-- `l |> f(args)`, `l` not a tuple: the first parameter takes `l`; then as many explicit
arguments as there are further parameters — fewer AND more are refused at the pipe -/
theorem tc_pipe_arity {Γ : Env} {ln : Ln} {l f : Expr} {args : ExprList} {cl cf : Comb}
    {cs : List (Ln × Comb)} {pc : PCst} {pt : Ty} {ps : TyList} {rc : PCst} {r : Ty}
    (hl : tc Γ l = .ok cl) (hnt : ∀ ms, cl.ct ≠ .val (.tuple ms))
    (hf : tc Γ f = .ok cf) (hct : cf.ct = .val (.func (.cons pc pt ps) rc r))
    (ha : tcArgs Γ args = .ok cs)
    (hfirst : paramExprCmp true pc pt l.ln cl = .ok)
    (hlen : ps.toList.length ≠ cs.length) :
    tc Γ (.pipe ln l f args) = .error ⟨ln, .callMismatch⟩ := by
  apply tc_pipe_silent hl hf hct ha
  unfold pipeRes
  split
  · exact absurd ‹_› (hnt _)
  · simp [pipeCmp, TyList.toList, hfirst, hlen]

/-- a function without parameters takes no piped value -/
theorem tc_pipe_noparams {Γ : Env} {ln : Ln} {l f : Expr} {args : ExprList} {cl cf : Comb}
    {cs : List (Ln × Comb)} {rc : PCst} {r : Ty}
    (hl : tc Γ l = .ok cl) (hf : tc Γ f = .ok cf) (hct : cf.ct = .val (.func .nil rc r))
    (ha : tcArgs Γ args = .ok cs) :
    tc Γ (.pipe ln l f args) = .error ⟨ln, .callMismatch⟩ := by
  apply tc_pipe_silent hl hf hct ha
  unfold pipeRes
  split <;> rfl

/-- `t |> f(args)`, `t` a tuple: members and explicit arguments together must be as many as the
parameters -/
theorem tc_pipe_tuple_arity {Γ : Env} {ln : Ln} {l f : Expr} {args : ExprList} {cl cf : Comb}
    {cs : List (Ln × Comb)} {ms ps : TyList} {rc : PCst} {r : Ty}
    (hl : tc Γ l = .ok cl) (hlt : cl.ct = .val (.tuple ms))
    (hf : tc Γ f = .ok cf) (hct : cf.ct = .val (.func ps rc r))
    (ha : tcArgs Γ args = .ok cs)
    (hlen : ps.toList.length ≠ ms.toList.length + cs.length) :
    tc Γ (.pipe ln l f args) = .error ⟨ln, .callMismatch⟩ := by
  apply tc_pipe_silent hl hf hct ha
  simp only [pipeRes, hlt, pipeTupleCmp]
  split
  · rfl
  · simp [hlen]
/-! ### exhaustiveness on the shared mark flags -/

theorem contains_unmarkEnum (m : Marks) (en it : String) : (unmarkEnum m en).contains (en, it) = false := by
  induction m with
  | nil => rfl
  | cons p r ih =>
    unfold unmarkEnum at ih ⊢
    rw [List.filter_cons]
    by_cases hp : p.1 = en
    · simp [hp]
    · have h1 : (p.1 != en) = true := by simp [hp]
      rw [if_pos h1, List.contains_cons, ih]
      have h2 : ((en, it) == p) = false := by
        obtain ⟨a, b⟩ := p
        simp at hp ⊢
        intro h; exact absurd h.symm hp
      simp [h2]

theorem contains_markGuards (en it : String) : (gs : GuardList) → (m : Marks) →
    (markGuards en gs m).contains (en, it) = (coversItem it gs || m.contains (en, it))
  | .nil, m => by simp [markGuards, coversItem]
  | .cons (.item _ _ it' _) rest, m => by
    rw [markGuards, contains_markGuards en it rest]
    simp only [coversItem, List.contains_cons]
    by_cases h : it' = it
    · subst h; simp
    · have h' : ¬ it = it' := fun e => h e.symm
      have e1 : ((en, it) == (en, it')) = false := by simp [h']
      have e2 : (it' == it) = false := by simp [h]
      simp [e1, e2, Bool.or_comm]
  | .cons (.recd _ _ it' _ _) rest, m => by
    rw [markGuards, contains_markGuards en it rest]
    simp only [coversItem, List.contains_cons]
    by_cases h : it' = it
    · subst h; simp
    · have h' : ¬ it = it' := fun e => h e.symm
      have e1 : ((en, it) == (en, it')) = false := by simp [h']
      have e2 : (it' == it) = false := by simp [h]
      simp [e1, e2, Bool.or_comm]
  | .cons (.else_ _ _) rest, m => by
    rw [markGuards, contains_markGuards en it rest]
    simp [coversItem]

/-- whatever marks earlier checks left behind, the verdict of `expr_match_guard_list_exhaustive`
is the state-free `exhaustive` (the marks of the matched enum are cleared FIRST) -/
theorem exhaustiveM_fst (Γ : Env) (en : String) (gs : GuardList) (m : Marks) :
    (exhaustiveM Γ en gs m).1 = exhaustive Γ en gs := by
  unfold exhaustiveM exhaustive
  by_cases he : hasElse gs = true
  · simp [he]
  · simp only [he, Bool.false_eq_true, ↓reduceIte, Bool.false_or, allMarked]
    congr 1
    funext it
    rw [contains_markGuards, contains_unmarkEnum]
    simp

/-! ### enum records: constructors, record guards -/

/-- `En::it(args)` with a number of arguments other than the enumerator's fields -/
theorem tc_ctor_arity {Γ : Env} {ln : Ln} {e : Expr} {it s : String} {args : ExprList} {ce : Comb}
    {cs : List (Ln × Comb)} {fs : List Field}
    (he : tc Γ e = .ok ce) (hct : ce.ct = .enumId s) (hit : Γ.hasItem s it = true)
    (ha : tcArgs Γ args = .ok cs) (hf : Γ.enumRecFields s it = some fs) (hlen : fs.length ≠ cs.length) :
    tc Γ (.ctor ln e it args) = .error ⟨ln, .enumCreate⟩ := by
  simp [tc, he, hct, hit, ha, hf, paramExprListCmp, hlen, CmpRes.toExcept]

/-- … or with an argument of a kind the field does not accept -/
theorem tc_ctor_kind {Γ : Env} {ln : Ln} {e : Expr} {it s : String} {args : ExprList} {ce : Comb}
    {cs : List (Ln × Comb)} {fs : List Field}
    (he : tc Γ e = .ok ce) (hct : ce.ct = .enumId s) (hit : Γ.hasItem s it = true)
    (ha : tcArgs Γ args = .ok cs) (hf : Γ.enumRecFields s it = some fs)
    (hbad : SomeArgRejected (fs.map fun f => (f.cst, f.ty)) cs) :
    ∃ d, tc Γ (.ctor ln e it args) = .error d ∧ (d.line = ln ∨ ∃ a ∈ cs, d.line = a.1) := by
  obtain ⟨d, hd, hl⟩ := paramExprListCmp_rejects false _ cs ⟨ln, .enumCreate⟩ hbad
  refine ⟨d, ?_, hl.imp (fun h : d = _ => h ▸ rfl) id⟩
  rw [tc, he, bind_ok]
  simp only [hct, hit, ↓reduceIte, ha, bind_ok, hf, hd, bind_err]

/-- a plain enumerator is not a constructor -/
theorem tc_ctor_plain {Γ : Env} {ln : Ln} {e : Expr} {it s : String} {args : ExprList} {ce : Comb}
    {cs : List (Ln × Comb)}
    (he : tc Γ e = .ok ce) (hct : ce.ct = .enumId s) (hit : Γ.hasItem s it = true)
    (ha : tcArgs Γ args = .ok cs) (hf : Γ.enumRecFields s it = none) :
    tc Γ (.ctor ln e it args) = .error ⟨ln, .enumCreate⟩ := by
  simp [tc, he, hct, hit, ha, hf]

/-- a guard of a match (`pre` are the guards before it) that fails on its own — it does not
resolve, its binds are not as many as the fields, its arm is in error — is the diagnostic -/
theorem tc_match_guard_fails {Γ : Env} {ln : Ln} {s : Expr} {g : Guard} {gs : GuardList} {cs : Comb}
    {en' : String} {pre : GuardList} {arms : List Comb} {d : Diag}
    (hs : tc Γ s = .ok cs) (hen : cs.ct = .val (.enum en')) (hpre : tcGuards Γ pre = .ok arms)
    (hg : guardHead Γ g = .error d) :
    tc Γ (.match_ ln s (pre.app (.cons g gs))) = .error d := by
  have h := tcGuards_app Γ (.cons g gs) d pre (by rw [hpre, tcGuards_cons, hg]; rfl)
  rw [tc, hs, bind_ok]
  simp only [hen]
  cases pre <;> exact bind_error h

/-- a record guard with a number of binds other than the fields -/
theorem tc_match_guard_binds {Γ : Env} {ln gln : Ln} {s : Expr} {en it : String} {binds : List (Ln × String)}
    {e : Expr} {gs : GuardList} {cs : Comb} {en' : String} {pre : GuardList} {arms : List Comb}
    (hs : tc Γ s = .ok cs) (hen : cs.ct = .val (.enum en')) (hpre : tcGuards Γ pre = .ok arms)
    (hg : guardItemPre Γ gln en it = .ok ())
    (hbad : guardBindsOk Γ gln en it binds = .error ⟨gln, .guardBinds⟩) :
    tc Γ (.match_ ln s (pre.app (.cons (.recd gln en it binds e) gs))) = .error ⟨gln, .guardBinds⟩ :=
  tc_match_guard_fails hs hen hpre (by rw [guardHead, hg, hbad]; rfl)

/-- … a guard that names an enumerator the enum does not have -/
theorem tc_match_guard_unknown {Γ : Env} {ln gln : Ln} {s : Expr} {en it : String} {binds : List (Ln × String)}
    {e : Expr} {gs : GuardList} {cs : Comb} {en' : String} {pre : GuardList} {arms : List Comb} {d : Diag}
    (hs : tc Γ s = .ok cs) (hen : cs.ct = .val (.enum en')) (hpre : tcGuards Γ pre = .ok arms)
    (hg : guardItemPre Γ gln en it = .error d) :
    tc Γ (.match_ ln s (pre.app (.cons (.recd gln en it binds e) gs))) = .error d :=
  tc_match_guard_fails hs hen hpre (by rw [guardHead, hg]; rfl)

/-- … guards that all resolve, one of them (item or record) of ANOTHER enum than the matched value -/
theorem tc_match_guard_other_enum {Γ : Env} {ln : Ln} {s : Expr} {g : Guard} {gs : GuardList} {cs : Comb}
    {en : String} {arms : List Comb} {d : Diag}
    (hs : tc Γ s = .ok cs) (hen : cs.ct = .val (.enum en))
    (hg : tcGuards Γ (.cons g gs) = .ok arms) (hsame : guardsSameEnum en (.cons g gs) = .error d) :
    tc Γ (.match_ ln s (.cons g gs)) = .error d := by
  simp [tc, hs, hen, hg, hsame]

theorem tc_ifletrec_binds {Γ : Env} {ln gln : Ln} {en it : String} {binds : List (Ln × String)} {e t f : Expr}
    {ce : Comb} {en' : String}
    (he : tc Γ e = .ok ce) (hen : ce.ct = .val (.enum en')) (hg : guardItemPre Γ gln en it = .ok ())
    (hbad : guardBindsOk Γ gln en it binds = .error ⟨gln, .guardBinds⟩) :
    tc Γ (.ifLetRec ln gln en it binds e t f) = .error ⟨gln, .guardBinds⟩ := by
  simp [tc, he, hen, hg, hbad]

/-! ### a function item needs a name; a main unit needs a function -/

theorem declFuncs_noname (Γ : Env) (f : Func) (fpost : FuncList) (hn : f.name = "") :
    declFuncs Γ (.cons f fpost) = .error ⟨f.ln, .funcNoName⟩ := by
  simp [declFuncs, addFunc, hn]

theorem declFuncs_app_noname (Γ Γ1 : Env) (fpre : FuncList) (ss : List Sig) (f : Func) (fpost : FuncList)
    (hpre : declFuncs Γ fpre = .ok (Γ1, ss)) (hn : f.name = "") :
    declFuncs Γ (fpre.app (.cons f fpost)) = .error ⟨f.ln, .funcNoName⟩ := by
  rw [declFuncs_app, hpre]
  simp [declFuncs_noname Γ1 f fpost hn]

/-- a nameless function item in a block -/
theorem tc_seq_noname {Γ Γ1 Γ2 : Env} {ln : Ln} {pre post : SeqList} {fpre fpost : FuncList} {ss : List Sig}
    {f : Func} (hpre : seqEnv Γ.push pre = .ok Γ1) (hf : declFuncs Γ1 fpre = .ok (Γ2, ss)) (hn : f.name = "") :
    tc Γ (.seq ln (pre.app (.cons (.funcs (fpre.app (.cons f fpost))) post))) = .error ⟨f.ln, .funcNoName⟩ := by
  have h : tcSeq Γ1 (.cons (.funcs (fpre.app (.cons f fpost))) post) = .error ⟨f.ln, .funcNoName⟩ := by
    simp [tcSeq, declFuncs_app_noname Γ1 Γ2 fpre ss f fpost hf hn]
  simp only [tc]
  exact bind_error (tcSeq_app pre _ _ _ (by rw [hpre]; exact h))

/-! ## function-level rules (`tcRest`) -/

theorem tcRest_unknown_exc {Γf : Env} {s : Sig} {ln : Ln} {name : String} {ps : List Param} {rc : PCst}
    {rty : Ty} {body : Expr} {xpre xpost : ExcList} {xln : Ln} {xname : String} {xbody : Expr}
    (hpre : tcExcs Γf s xpre = .ok ()) (hun : unknownExc xname = true) :
    tcRest Γf s (.mk ln name ps rc rty body (xpre.app (.cons (.mk xln xname xbody) xpost)))
      = .error ⟨xln, .unknownException⟩ := by
  simp [tcRest, tcExcs_app, hpre, tcExcs, hun]

theorem tcRest_result_kind {Γf : Env} {s : Sig} {ln : Ln} {name : String} {ps : List Param} {rc : PCst}
    {rty : Ty} {body : Expr} {excs : ExcList} {c : Comb}
    (hx : tcExcs Γf s excs = .ok ()) (hb : tc Γf body = .ok c)
    (hbad : ¬ Accepts s.r c.ct) :
    ∃ d, tcRest Γf s (.mk ln name ps rc rty body excs) = .error d ∧ (d.line = ln ∨ d.line = body.ln) := by
  cases h1 : paramExprCmp true s.rc s.r body.ln c with
  | ok => exact absurd (paramExprCmp_sound _ _ _ _ _ h1) hbad
  | fail od =>
    cases od with
    | none => exact ⟨⟨ln, .returnType⟩, by simp [tcRest, hx, hb, h1, CmpRes.toExcept], .inl rfl⟩
    | some d => exact ⟨d, by simp [tcRest, hx, hb, h1, CmpRes.toExcept], .inr (paramExprCmp_fail_line h1)⟩

end Never.Tc
