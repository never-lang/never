import NeverModel.Lemmas.VmNoWC
import NeverModel.Lemmas.VmIpSound
set_option linter.unusedSimpArgs false
/-! no handler stores outside the stack array.  `WOk N s f`: on a machine with stack size `N` and `sp = s`, `f` never ends in the wild
stack write.  The combinators mirror those of `EffAt`/`FootAt`; what a store needs — `0 ≤ i < N` — comes from facts the rules put into
the local context: the entry condition `-1 ≤ sp < N`, every stack READ that succeeded before (its index is inside the array), and
`vm_check_stack` (behind it `sp < N`). -/
namespace Never.Vm
open Never Never.Num

def WOk {α} (N : Nat) (s : Int) (f : M α) : Prop :=
  ∀ vm, vm.stackSize = N → vm.sp = s → f.run vm ≠ .error wildWrite

theorem WOk.of_nowc {α} {N : Nat} {s : Int} {f : M α} (h : NoWC f) : WOk N s f := fun vm _ _ => h vm

theorem WOk.wrSlot (N : Nat) (s i : Int) (x : Slot) (h0 : 0 ≤ i) (h1 : i < N) : WOk N s (Vm.wrSlot i x) := by
  intro vm hN _ h
  unfold Vm.wrSlot at h
  rcases (run_bind_err _ _ vm _).mp h with h1' | ⟨v0, v0', h3, h4⟩
  · simp [get, getThe, MonadStateOf.get, StateT.get, StateT.run, Pure.pure, Except.pure] at h1'
  · simp [get, getThe, MonadStateOf.get, StateT.get, StateT.run, Pure.pure, Except.pure] at h3
    obtain ⟨e1, e2⟩ := h3
    rw [← e1, ← e2] at h4
    split at h4
    · rename_i hb; rw [hN] at hb; omega
    · simp [set, StateT.set, StateT.run, Pure.pure, Except.pure] at h4

theorem pushP_not_wild (vm : Vm) (a : Nat) (h0 : -1 ≤ vm.sp) : pushP vm a ≠ .error wildWrite := by
  unfold pushP checkP wrP
  simp only [bind, Except.bind]
  by_cases c1 : vm.sp + 1 ≥ vm.stackSize
  · simp [c1, wildWrite]
  · simp only [c1, if_false]
    split
    · rename_i hb
      have hb' : vm.sp + 1 < 0 ∨ False := hb
      rcases hb' with h | h
      · omega
      · exact h.elim
    · intro h; cases h

theorem WOk.pushAddr (N : Nat) (s : Int) (a : Nat) (h : -1 ≤ s) : WOk N s (Vm.pushAddr a) := by
  intro vm _ hs hr
  unfold Vm.pushAddr at hr
  simp only [bind, StateT.bind, StateT.run, get, getThe, MonadStateOf.get, StateT.get, pure, StateT.pure, Except.pure, Except.bind] at hr
  cases hp : pushP vm a with
  | error e =>
    rw [hp] at hr
    simp [liftE, throw, throwThe, MonadExceptOf.throw, StateT.lift, liftM, monadLift, MonadLift.monadLift, Except.bind, bind] at hr
    rw [hr] at hp
    exact pushP_not_wild vm a (by omega) hp
  | ok v1 =>
    rw [hp] at hr
    simp [liftE, set, StateT.set, pure, StateT.pure, Except.pure] at hr

theorem WOk.keeps_bind {α β} {N : Nat} {s : Int} {f : M α} {g : α → M β} (hk : KeepsSp f) (hf : WOk N s f) (hg : ∀ a, WOk N s (g a)) :
    WOk N s (f >>= g) := by
  intro vm hN hs h
  rcases (run_bind_err f g vm _).mp h with h1 | ⟨a, vm', h1, h2⟩
  · exact hf vm hN hs h1
  · obtain ⟨a1, _, _, a4⟩ := hk vm a vm' h1
    exact hg a vm' (by omega) (by omega) h2

theorem getSp_err (vm : Vm) (e : Stop) : ¬ (getSp.run vm = .error e) := by
  simp [getSp, get, getThe, MonadStateOf.get, StateT.get, StateT.run, pure, StateT.pure, Except.pure, bind, StateT.bind, Except.bind]

theorem WOk.getSp_bind {β} {N : Nat} {s : Int} {g : Int → M β} (hg : WOk N s (g s)) : WOk N s (getSp >>= g) := by
  intro vm hN hs h
  rcases (run_bind_err getSp g vm _).mp h with h1 | ⟨a, vm', h1, h2⟩
  · exact getSp_err _ _ h1
  · obtain ⟨rfl, rfl⟩ := getSp_run _ _ _ h1
    subst hs
    exact hg _ hN rfl h2

/-- a successful stack read puts its index inside the array -/
theorem WOk.rdSlot_bind {β} {N : Nat} {s i : Int} {g : Slot → M β} (hg : ∀ x, 0 ≤ i ∧ i < N → WOk N s (g x)) : WOk N s (rdSlot i >>= g) := by
  intro vm hN hs h
  rcases (run_bind_err _ g vm _).mp h with h1 | ⟨a, vm', h1, h2⟩
  · exact nowc_rdSlot i vm h1
  · have e := readOnly_rdSlot _ _ _ _ h1
    unfold rdSlot at h1
    obtain ⟨v0, v0', h3, h4⟩ := (run_bind_ok _ _ _ _ _).mp h1
    obtain ⟨e0, e0'⟩ := get_run _ _ _ h3
    rw [e0, e0'] at h4
    split at h4
    · exact absurd h4 (by simp [crash, throw, throwThe, MonadExceptOf.throw, StateT.run, StateT.lift, liftM, monadLift, MonadLift.monadLift, Except.bind, Bind.bind])
    · rename_i hb
      rw [e] at h2
      exact hg a ⟨by omega, by rw [← hN]; omega⟩ vm hN hs h2

theorem WOk.rdAddr_bind {β} {N : Nat} {s i : Int} {g : Nat → M β} (hg : ∀ x, 0 ≤ i ∧ i < N → WOk N s (g x)) : WOk N s (rdAddr i >>= g) := by
  unfold rdAddr
  intro vm hN hs h
  have : (rdSlot i >>= fun x => (Pure.pure x.asAddr : M Nat) >>= g).run vm = .error wildWrite := by
    simpa [bind_assoc] using h
  refine WOk.rdSlot_bind (g := fun x => (Pure.pure x.asAddr : M Nat) >>= g) (fun x hb => ?_) vm hN hs this
  intro vm' hN' hs' h'
  simp only [pure_bind] at h'
  exact hg _ hb vm' hN' hs' h'

/-- behind `vm_check_stack` the stack pointer is inside the array -/
theorem WOk.check_bind {β} {N : Nat} {s : Int} {g : PUnit → M β} (hg : ∀ x, s < N → WOk N s (g x)) : WOk N s (checkStack >>= g) := by
  intro vm hN hs h
  rcases (run_bind_err _ g vm _).mp h with h1 | ⟨a, vm', h1, h2⟩
  · exact nowc_checkStack vm h1
  · unfold checkStack at h1
    obtain ⟨v0, v0', h3, h4⟩ := (run_bind_ok _ _ _ _ _).mp h1
    obtain ⟨e0, e0'⟩ := get_run _ _ _ h3
    rw [e0, e0'] at h4
    split at h4
    · exact absurd h4 (by simp [exitVm, throw, throwThe, MonadExceptOf.throw, StateT.run, StateT.lift, liftM, monadLift, MonadLift.monadLift, Except.bind, Bind.bind])
    · rename_i hb
      obtain ⟨_, e⟩ := (run_pure_ok _ _ _ _).mp h4
      rw [e] at h2
      exact hg a (by rw [← hN, ← hs]; omega) vm hN hs h2

theorem setSp_err (v : Int) (vm : Vm) (e : Stop) : ¬ ((Vm.setSp v).run vm = .error e) := by
  simp [Vm.setSp, modify, modifyGet, MonadStateOf.modifyGet, StateT.modifyGet, StateT.run, pure, Except.pure]

theorem WOk.setSp_then {β} (N : Nat) (s v : Int) {g : PUnit → M β} (hg : ∀ a, WOk N v (g a)) : WOk N s (Vm.setSp v >>= g) := by
  intro vm hN hs h
  rcases (run_bind_err _ g vm _).mp h with h1 | ⟨a, vm', h1, h2⟩
  · exact setSp_err _ _ _ h1
  · obtain ⟨t1, _, _, t4, _⟩ := keeps_setSp_run _ _ _ _ h1
    exact hg a vm' (by omega) t1 h2

theorem WOk.mov_bind {α β} {N : Nat} {s d1 : Int} {f : M α} {g : α → M β} (hm : MovAt s d1 f) (hf : WOk N s f)
    (hg : ∀ a, WOk N (s + d1) (g a)) : WOk N s (f >>= g) := by
  intro vm hN hs h
  rcases (run_bind_err f g vm _).mp h with h1 | ⟨a, vm', h1, h2⟩
  · exact hf vm hN hs h1
  · obtain ⟨a1, _, _, a4⟩ := hm vm a vm' hs h1
    exact hg a vm' (by omega) a1 h2

theorem WOk.popOpt_bind {α β} {N : Nat} {s : Int} {n : Nat} {f : M (Option α)} {g : Option α → M β} (hp : PopOpt s n f) (hf : NoWC f)
    (hnone : NoWC (g none)) (hsome : ∀ x, WOk N (s - (n : Int)) (g (some x))) : WOk N s (f >>= g) := by
  intro vm hN hs h
  rcases (run_bind_err f g vm _).mp h with h1 | ⟨r, vm', h1, h2⟩
  · exact hf vm h1
  · obtain ⟨_, _, a3, a4, _⟩ := hp vm r vm' hs h1
    cases r with
    | none => exact hnone vm' h2
    | some x => exact hsome x vm' (by omega) (a4 rfl) h2

theorem WOk.bool_bind {β} {N : Nat} {s : Int} {f : M Bool} {g : Bool → M β} (hk : KeepsSp f) (hf : NoWC f)
    (ht : WOk N s (g true)) (hfalse : NoWC (g false)) : WOk N s (f >>= g) := by
  intro vm hN hs h
  rcases (run_bind_err f g vm _).mp h with h1 | ⟨r, vm', h1, h2⟩
  · exact hf vm h1
  · obtain ⟨a1, _, _, a4⟩ := hk vm r vm' h1
    cases r with
    | true => exact ht vm' (by omega) (by omega) h2
    | false => exact hfalse vm' h2

theorem WOk.boolmov_bind {β} {N : Nat} {s : Int} {n : Nat} {f : M Bool} {g : Bool → M β}
    (hp : ∀ vm r vm', vm.sp = s → f.run vm = .ok (r, vm') →
      vm'.fp = vm.fp ∧ vm'.pp = vm.pp ∧ vm'.stackSize = vm.stackSize ∧ (r = true → vm'.sp = s - (n : Int)) ∧ (r = false → vm'.running = 2))
    (hf : NoWC f) (ht : WOk N (s - (n : Int)) (g true)) (hfalse : NoWC (g false)) : WOk N s (f >>= g) := by
  intro vm hN hs h
  rcases (run_bind_err f g vm _).mp h with h1 | ⟨r, vm', h1, h2⟩
  · exact hf vm h1
  · obtain ⟨_, _, a3, a4, _⟩ := hp vm r vm' hs h1
    cases r with
    | true => exact ht vm' (by omega) (a4 rfl) h2
    | false => exact hfalse vm' h2

theorem WOk.wr_bind {β} {N : Nat} {s i : Int} {x : Slot} {g : Unit → M β} (h0 : 0 ≤ i) (h1 : i < N) (hg : ∀ a, WOk N s (g a)) :
    WOk N s (Vm.wrSlot i x >>= g) := WOk.keeps_bind (keeps_wrSlot i x) (WOk.wrSlot N s i x h0 h1) hg

theorem WOk.quiet_bind {α β} {N : Nat} {s : Int} {f : M α} {g : α → M β} (hk : Rel SameRegs f) (hn : NoWC f) (hg : ∀ a, WOk N s (g a)) :
    WOk N s (f >>= g) := WOk.keeps_bind hk (WOk.of_nowc hn) hg

/-- `popAddrs n` succeeded from `sp = s`: its `n` reads were inside the array, so `0 ≤ s − n + 1` (for `n ≥ 1`) -/
theorem popAddrs_low (n : Nat) : ∀ (vm vm' : Vm) (l : List Nat), (popAddrs n).run vm = .ok (l, vm') → n = 0 ∨ 0 ≤ vm.sp - (n : Int) + 1 := by
  induction n with
  | zero => intro _ _ _ _; exact Or.inl rfl
  | succ n ih =>
    intro vm vm' l h
    right
    unfold popAddrs at h
    obtain ⟨sp, v0, h0, h⟩ := (run_bind_ok _ _ _ _ _).mp h
    obtain ⟨e0, e0'⟩ := getSp_run _ _ _ h0
    rw [e0, e0'] at h
    obtain ⟨a, v1, h1, h⟩ := (run_bind_ok _ _ _ _ _).mp h
    have e1 := readOnly_rdAddr _ _ _ _ h1
    rw [e1] at h
    obtain ⟨u, v2, h2, h⟩ := (run_bind_ok _ _ _ _ _).mp h
    obtain ⟨t1, _⟩ := keeps_setSp_run _ _ _ _ h2
    obtain ⟨rest, v3, h3, _⟩ := (run_bind_ok _ _ _ _ _).mp h
    have hb : 0 ≤ vm.sp := by
      unfold rdAddr rdSlot at h1
      obtain ⟨x, w1, g1, _⟩ := (run_bind_ok _ _ _ _ _).mp h1
      obtain ⟨y, w2, g2, g3⟩ := (run_bind_ok _ _ _ _ _).mp g1
      obtain ⟨e2, e2'⟩ := get_run _ _ _ g2
      rw [e2, e2'] at g3
      split at g3
      · exact absurd g3 (by simp [crash, throw, throwThe, MonadExceptOf.throw, StateT.run, StateT.lift, liftM, monadLift, MonadLift.monadLift, Except.bind, Bind.bind])
      · omega
    rcases ih v2 v3 rest h3 with hz | hz
    · subst hz; omega
    · rw [t1] at hz; omega

theorem WOk.popAddrs_bind {β} {N : Nat} {s : Int} {n : Nat} {g : List Nat → M β}
    (hg : ∀ l, (n = 0 ∨ 0 ≤ s - (n : Int) + 1) → WOk N (s - (n : Int)) (g l)) : WOk N s (popAddrs n >>= g) := by
  intro vm hN hs h
  rcases (run_bind_err _ g vm _).mp h with h1 | ⟨l, vm', h1, h2⟩
  · exact nowc_popAddrs n vm h1
  · obtain ⟨a1, _, _, a4⟩ := popAddrs_mov n s vm l vm' hs h1
    have := popAddrs_low n vm vm' l h1
    rw [hs] at this
    exact hg l this vm' (by omega) (by omega) h2

/-- `allocLoop n` only pushes -/
theorem allocLoop_wok (N : Nat) (n : Nat) : ∀ s, -1 ≤ s → WOk N s (allocLoop n) := by
  induction n with
  | zero => intro s _; unfold allocLoop; exact WOk.of_nowc (NoWC.pure _)
  | succ n ih =>
    intro s h
    unfold allocLoop
    refine WOk.keeps_bind (by keeps) (WOk.of_nowc (by nowc)) (fun a => ?_)
    exact WOk.mov_bind (pushAddr_mov _ _) (WOk.pushAddr _ _ _ h) (fun _ => ih _ (by omega))

/-- `unpackLoop sp … i` writes `sp … sp + i − 1` -/
theorem unpackLoop_wok (N : Nat) (s sp : Int) (fs : List Nat) (size : Nat) (h0 : 0 ≤ sp) : ∀ (i : Nat), sp + (i : Int) ≤ N → WOk N s (unpackLoop sp fs size i) := by
  intro i
  induction i with
  | zero => intro _; unfold unpackLoop; exact WOk.of_nowc (NoWC.pure _)
  | succ i ih =>
    intro h
    unfold unpackLoop
    exact WOk.keeps_bind (keeps_wrSlot _ _) (WOk.wrSlot _ _ _ _ (by omega) (by omega)) (fun _ => ih (by omega))

/-- what the append step does to the heap is no stack store -/
theorem nowc_appendTail (array obj : Nat) :
    NoWC (do let vm ← get
             match vm.gc.appendArrElem array obj with
             | some g => set { vm with gc := g }
             | none => (crash "assert: append to a non 1-dimensional array" : M PUnit)) := by
  refine NoWC.bind nowc_get (fun vm => ?_)
  split
  · exact nowc_set _
  · exact nowc_crash _ (by decide)

theorem WOk.push_bind {β} {N : Nat} {s : Int} {a : Nat} {g : Unit → M β} (h : -1 ≤ s) (hg : ∀ u, WOk N (s + 1) (g u)) :
    WOk N s (Vm.pushAddr a >>= g) := WOk.mov_bind (pushAddr_mov s a) (WOk.pushAddr N s a h) hg

/-- proves `WOk N s f` for a handler built from the helpers: follows `sp` through `getSp`/`setSp`, keeps what every stack read and
`vm_check_stack` establish in the context, and asks `omega` for `0 ≤ i < N` at every store -/
syntax "wok" : tactic
macro_rules
  | `(tactic| wok) => `(tactic|
      first
      | (with_reducible refine WOk.getSp_bind ?_); wok
      | (with_reducible refine WOk.rdAddr_bind (fun _ _ => ?_)); wok
      | (with_reducible refine WOk.rdSlot_bind (fun _ _ => ?_)); wok
      | (with_reducible refine WOk.check_bind (fun _ _ => ?_)); wok
      | (with_reducible refine WOk.setSp_then _ _ _ (fun _ => ?_)); wok
      | (with_reducible refine WOk.wr_bind ?h0 ?h1 (fun _ => ?hg)); (case h0 => omega); (case h1 => omega); (case hg => wok)
      | (with_reducible refine WOk.push_bind ?h (fun _ => ?hg)); (case h => omega); (case hg => wok)
      | (with_reducible refine WOk.quiet_bind ?hk ?hn (fun _ => ?hg)); (case hk => vm_rel); (case hn => nowc); (case hg => wok)
      | (fail_if_success (with_reducible refine WOk.quiet_bind ?hk ?hn (fun _ => ?hg))
         first
         | (with_reducible refine WOk.wrSlot _ _ _ _ ?h0 ?h1) <;> omega
         | (with_reducible refine WOk.pushAddr _ _ _ ?h); omega
         | (with_reducible refine allocLoop_wok _ _ _ ?h); omega
         | (with_reducible refine unpackLoop_wok _ _ _ _ _ ?h0 _ ?h1) <;> omega
         | (with_reducible refine WOk.of_nowc ?h); nowc1
         | (split <;> wok)
         | (fail_if_success split; dsimp only; wok))
      | (with_reducible refine WOk.popAddrs_bind (fun _ _ => ?_)); wok
      | (with_reducible refine WOk.popOpt_bind (popIndices_spec _ _) ?h1 ?h2 (fun _ => ?hg)); (case h1 => nowc); (case h2 => nowc); (case hg => wok)
      | (with_reducible refine WOk.bool_bind (KeepsSp.of_rel (rel_composeRanges _ _ _ _ _)) ?hn ?ht ?hf); (case hn => nowc); (case hf => simp only [Bool.false_eq_true, ↓reduceIte]; nowc); (case ht => simp only [↓reduceIte]; wok)
      | (with_reducible refine WOk.boolmov_bind (fun vm r vm' hs hr => rangeDerefLoop_spec _ _ _ _ _ vm r vm' hs hr) ?hn ?ht ?hf); (case hn => nowc); (case hf => simp only [Bool.false_eq_true, ↓reduceIte]; nowc); (case ht => simp only [↓reduceIte]; wok)
      | (with_reducible_and_instances refine WOk.of_nowc (nowc_appendTail _ _)))

macro "exec_wok" h:ident : tactic => `(tactic|
  (unfold exec
   simp only [$h:ident, binOpOf, unOpOf, convOf, nilCmpOf, strAddOf, arrOpOf, mkArrayElem]
   wok))

macro "exec_wsel" h:ident : tactic => `(tactic|
  (unfold exec
   simp only [$h:ident, binOpOf, unOpOf, convOf, nilCmpOf, strAddOf, arrOpOf, mkArrayElem]
   refine WOk.getSp_bind ?_))

end Never.Vm
