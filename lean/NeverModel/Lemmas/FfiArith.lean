import NeverModel.Model.Ffi
/-! arithmetic facts for M-FFI: `roundUp`, the 32-bit bit-mask align, little-endian bytes -/
namespace Never.Ffi

/-- alignments that occur: 1, 4, 8 -/
def IsAl (a : Nat) : Prop := a = 1 ∨ a = 4 ∨ a = 8

theorem IsAl.pos {a} (h : IsAl a) : 0 < a := by rcases h with h | h | h <;> omega

theorem IsAl.max {a b} (ha : IsAl a) (hb : IsAl b) : IsAl (max a b) := by
  rcases ha with h | h | h <;> rcases hb with h' | h' | h' <;> subst h <;> subst h' <;> simp [IsAl]

theorem IsAl.dvd_of_le {a b} (ha : IsAl a) (hb : IsAl b) (h : a ≤ b) : a ∣ b := by
  rcases ha with h1 | h1 | h1 <;> rcases hb with h2 | h2 | h2 <;> subst h1 <;> subst h2 <;>
    first | omega | exact ⟨1, rfl⟩ | exact ⟨2, rfl⟩ | exact ⟨4, rfl⟩ | exact ⟨8, rfl⟩

theorem roundUp_one (v : Nat) : roundUp v 1 = v := by simp [roundUp]

theorem roundUp_ge (v a : Nat) (ha : 0 < a) : v ≤ roundUp v a := by
  unfold roundUp
  have h1 := Nat.div_add_mod (v + (a - 1)) a
  have h2 := Nat.mod_lt (v + (a - 1)) ha
  have h3 : a * ((v + (a - 1)) / a) = (v + (a - 1)) / a * a := Nat.mul_comm _ _
  omega

theorem roundUp_lt (v a : Nat) (ha : 0 < a) : roundUp v a < v + a := by
  unfold roundUp
  have h1 := Nat.div_add_mod (v + (a - 1)) a
  have h3 : a * ((v + (a - 1)) / a) = (v + (a - 1)) / a * a := Nat.mul_comm _ _
  omega

theorem roundUp_dvd (v a : Nat) : a ∣ roundUp v a := ⟨_, Nat.mul_comm _ _⟩

theorem roundUp_of_dvd (v a : Nat) (ha : 0 < a) (h : a ∣ v) : roundUp v a = v := by
  obtain ⟨k, rfl⟩ := h
  unfold roundUp
  have : (a * k + (a - 1)) / a = k := by
    rw [Nat.mul_add_div ha]
    have : (a - 1) / a = 0 := Nat.div_eq_of_lt (by omega)
    omega
  rw [this, Nat.mul_comm]

/-- the fact that makes an absolute running offset agree with "base + relative offset" -/
theorem roundUp_base_add (base rel a : Nat) (ha : 0 < a) (h : a ∣ base) :
    roundUp (base + rel) a = base + roundUp rel a := by
  obtain ⟨k, rfl⟩ := h
  unfold roundUp
  have : (a * k + rel + (a - 1)) / a = k + (rel + (a - 1)) / a := by
    rw [Nat.add_assoc, Nat.mul_comm, Nat.add_comm, Nat.add_mul_div_right _ _ ha, Nat.add_comm]
  rw [this, Nat.add_mul, Nat.mul_comm]

theorem roundUp_idem (v a : Nat) (ha : 0 < a) : roundUp (roundUp v a) a = roundUp v a :=
  roundUp_of_dvd _ _ ha (roundUp_dvd v a)

theorem roundUp_mono (v w a : Nat) (h : v ≤ w) : roundUp v a ≤ roundUp w a := by
  unfold roundUp
  exact Nat.mul_le_mul_right _ (Nat.div_le_div_right (by omega))

/-! ### the bit-mask align of vmffi.c -/

private theorem and_mask (x : BitVec 32) (k : Nat) : (x &&& (BitVec.allOnes 32 <<< k)) = (x >>> k) <<< k := by
  apply BitVec.eq_of_getLsbD_eq
  intro i hi
  simp only [BitVec.getLsbD_and, BitVec.getLsbD_shiftLeft, BitVec.getLsbD_ushiftRight, BitVec.getLsbD_allOnes]
  by_cases h : i < k
  · simp [h]
  · simp [h, hi, show k + (i - k) = i by omega]
    omega

private theorem toNat_shr_shl (x : BitVec 32) (k : Nat) : ((x >>> k) <<< k).toNat = x.toNat / 2 ^ k * 2 ^ k := by
  rw [BitVec.toNat_shiftLeft, BitVec.toNat_ushiftRight, Nat.shiftLeft_eq, Nat.shiftRight_eq_div_pow]
  exact Nat.mod_eq_of_lt (Nat.lt_of_le_of_lt (Nat.div_mul_le_self _ _) x.isLt)
/-- `vm_execute_func_ffi_align` is round-up for the alignments 1, 4, 8 as long as the result
fits `unsigned int` -/
theorem align32_toNat (v : BitVec 32) (a : Nat) (ha : IsAl a) (hfit : roundUp v.toNat a < 2 ^ 32) :
    (align32 v (BitVec.ofNat 32 a)).toNat = roundUp v.toNat a := by
  have hge := roundUp_ge v.toNat a ha.pos
  have hlt := roundUp_lt v.toNat a ha.pos
  rcases ha with h | h | h <;> subst h
  · simp [align32, roundUp]
  · have e1 : align32 v (BitVec.ofNat 32 4) = (v + 3#32) &&& 4294967292#32 := by
      simp [align32]
    rw [e1, show (4294967292#32) = BitVec.allOnes 32 <<< 2 by decide, and_mask, toNat_shr_shl, BitVec.toNat_add]
    simp only [roundUp] at *
    have : (v.toNat + (3#32).toNat) % 2 ^ 32 = v.toNat + 3 := by
      simp; omega
    rw [this]
  · have e1 : align32 v (BitVec.ofNat 32 8) = (v + 7#32) &&& 4294967288#32 := by
      simp [align32]
    rw [e1, show (4294967288#32) = BitVec.allOnes 32 <<< 3 by decide, and_mask, toNat_shr_shl, BitVec.toNat_add]
    simp only [roundUp] at *
    have : (v.toNat + (7#32).toNat) % 2 ^ 32 = v.toNat + 7 := by
      simp; omega
    rw [this]

/-- a running offset `base + rel` whose base is aligned rounds up in its relative part only -/
theorem align32_base_add (off : BitVec 32) (base rel a : Nat) (ha : IsAl a) (hoff : off.toNat = base + rel)
    (hal : a ∣ base) (hfit : base + roundUp rel a < 2 ^ 32) :
    (align32 off (BitVec.ofNat 32 a)).toNat = base + roundUp rel a := by
  have hru := roundUp_base_add base rel a ha.pos hal
  rw [align32_toNat off a ha (by rw [hoff, hru]; exact hfit), hoff, hru]

theorem add32_toNat (o : BitVec 32) (s : Nat) (h : o.toNat + s < 2 ^ 32) :
    (add32 o s).toNat = o.toNat + s := by
  simp [add32, BitVec.toNat_add]
  omega

/-! ### little-endian bytes -/

theorem byteOf_toNat (v k : Nat) : (byteOf v k).toNat = v / 256 ^ k % 256 := by
  simp [byteOf]

/-- reading back `m` bytes from position `j` inside a stored `n`-byte value -/
theorem readLE_write (g : Nat → UInt8) (off n v : Nat) (j m : Nat) (h : j + m ≤ n) :
    readLE (fun i => if off ≤ i ∧ i < off + n then byteOf v (i - off) else g i) (off + j) m
      = v / 256 ^ j % 256 ^ m := by
  induction m generalizing j with
  | zero => simp [readLE, Nat.mod_one]
  | succ m ih =>
    have hj : off ≤ off + j ∧ off + j < off + n := by omega
    have e : off + j + 1 = off + (j + 1) := by omega
    simp only [readLE, hj, and_self, if_true, e]
    rw [ih (j + 1) (by omega), byteOf_toNat]
    have e2 : off + j - off = j := by omega
    rw [e2]
    have e3 : v / 256 ^ (j + 1) = v / 256 ^ j / 256 := by
      rw [Nat.pow_succ, Nat.div_div_eq_div_mul]
    rw [e3, Nat.pow_succ, Nat.mul_comm (256 ^ m) 256, Nat.mod_mul]

theorem readLE_congr (g h : Nat → UInt8) (off n : Nat)
    (hgh : ∀ i, off ≤ i → i < off + n → g i = h i) : readLE g off n = readLE h off n := by
  induction n generalizing off with
  | zero => rfl
  | succ n ih =>
    simp only [readLE]
    rw [hgh off (by omega) (by omega), ih (off + 1) (fun i h1 h2 => hgh i (by omega) (by omega))]

end Never.Ffi
