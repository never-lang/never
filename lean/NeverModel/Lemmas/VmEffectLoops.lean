import NeverModel.Lemmas.VmEffect2
set_option linter.unusedSimpArgs false
/-! exact stack-pointer movement of the popping / pushing loops of M-VM -/
namespace Never.Vm
open Never Never.Num

/-- started with `sp = s`, a completed run of `f` ends with `sp = s + d` exactly (fp/pp/stack size untouched) -/
def MovAt {α} (s d : Int) (f : M α) : Prop :=
  ∀ vm a vm', vm.sp = s → f.run vm = .ok (a, vm') →
    vm'.sp = s + d ∧ vm'.fp = vm.fp ∧ vm'.pp = vm.pp ∧ vm'.stackSize = vm.stackSize

theorem MovAt.bind {α β} {s d1 d2 d : Int} {f : M α} {g : α → M β} (hf : MovAt s d1 f) (hg : ∀ a, MovAt (s + d1) d2 (g a))
    (hd : d = d1 + d2) : MovAt s d (f >>= g) := by
  intro vm b vm'' hs h
  obtain ⟨a, vm', h1, h2⟩ := (run_bind_ok f g vm vm'' b).mp h
  obtain ⟨a1, a2, a3, a4⟩ := hf vm a vm' hs h1
  obtain ⟨b1, b2, b3, b4⟩ := hg a vm' b vm'' a1 h2
  exact ⟨by omega, by omega, by omega, by omega⟩

theorem MovAt.of_keeps {α} {s : Int} {f : M α} (hf : KeepsSp f) : MovAt s 0 f := by
  intro vm a vm' hs h
  obtain ⟨a1, a2, a3, a4⟩ := hf vm a vm' h
  exact ⟨by omega, a2, a3, a4⟩

theorem MovAt.setSp (s v : Int) : MovAt s (v - s) (Vm.setSp v) := by
  intro vm a vm' hs h
  obtain ⟨t1, t2, t3, t4, _⟩ := keeps_setSp_run _ _ _ _ h
  exact ⟨by omega, t2, t3, t4⟩

theorem MovAt.getSp_bind {β} {s d : Int} {g : Int → M β} (hg : MovAt s d (g s)) : MovAt s d (getSp >>= g) := by
  intro vm b vm'' hs h
  obtain ⟨a, vm', h1, h2⟩ := (run_bind_ok getSp g vm vm'' b).mp h
  obtain ⟨rfl, rfl⟩ := getSp_run _ _ _ h1
  subst hs
  exact hg _ _ _ rfl h2

theorem MovAt.toEff {α} {s d : Int} {f : M α} (h : MovAt s d f) : EffAt s d f := by
  intro vm a vm' hs hr
  obtain ⟨a1, a2, a3, a4⟩ := h vm a vm' hs hr
  exact ⟨a2, a3, a4, Or.inl a1⟩

theorem pushAddr_mov (s : Int) (a : Nat) : MovAt s 1 (Vm.pushAddr a) := by
  intro vm u vm' hs h
  obtain ⟨_, _, rfl⟩ := pushP_eq (pushAddr_run h)
  exact ⟨by simp only; omega, rfl, rfl, rfl⟩

/-- `popAddrs n` pops exactly `n` slots -/
theorem popAddrs_mov (n : Nat) : ∀ s, MovAt s (-(n : Int)) (popAddrs n) := by
  induction n with
  | zero => intro s; unfold popAddrs; exact MovAt.of_keeps (KeepsSp.pure _)
  | succ n ih =>
    intro s
    unfold popAddrs
    apply MovAt.getSp_bind
    refine MovAt.bind (MovAt.of_keeps (rel_rdAddr (R := SameRegs) s)) (fun a => ?_) (d2 := -((n : Int) + 1)) (by omega)
    refine MovAt.bind (MovAt.setSp _ _) (fun _ => ?_) (d2 := -(n : Int)) (by omega)
    refine MovAt.bind (ih _) (fun _ => MovAt.of_keeps (KeepsSp.pure _)) (by omega)

/-- `popInts n` pops exactly `n` slots -/
theorem popInts_mov (n : Nat) : ∀ s, MovAt s (-(n : Int)) (popInts n) := by
  induction n with
  | zero => intro s; unfold popInts; exact MovAt.of_keeps (KeepsSp.pure _)
  | succ n ih =>
    intro s
    unfold popInts
    apply MovAt.getSp_bind
    refine MovAt.bind (MovAt.of_keeps (by keeps)) (fun a => ?_) (d2 := -((n : Int) + 1)) (by omega)
    refine MovAt.bind (MovAt.of_keeps (by keeps)) (fun a => ?_) (d2 := -((n : Int) + 1)) (by omega)
    refine MovAt.bind (MovAt.setSp _ _) (fun _ => ?_) (d2 := -(n : Int)) (by omega)
    refine MovAt.bind (ih _) (fun _ => MovAt.of_keeps (KeepsSp.pure _)) (by omega)

/-- `allocLoop n` pushes exactly `n` slots -/
theorem allocLoop_mov (n : Nat) : ∀ s, MovAt s (n : Int) (allocLoop n) := by
  induction n with
  | zero => intro s; unfold allocLoop; exact MovAt.of_keeps (KeepsSp.pure _)
  | succ n ih =>
    intro s
    unfold allocLoop
    refine MovAt.bind (MovAt.of_keeps (rel_alloc (R := SameRegs) _)) (fun a => ?_) (d2 := (n : Int) + 1) (by omega)
    refine MovAt.bind (pushAddr_mov _ _) (fun _ => ih _) (by omega)


/-- a popping loop that may stop early with an exception: `some` = all `n` slots popped, `none` = raised -/
def PopOpt {α} (s : Int) (n : Nat) (f : M (Option α)) : Prop :=
  ∀ vm r vm', vm.sp = s → f.run vm = .ok (r, vm') →
    vm'.fp = vm.fp ∧ vm'.pp = vm.pp ∧ vm'.stackSize = vm.stackSize ∧
    (r.isSome = true → vm'.sp = s - (n : Int)) ∧ (r = none → vm'.running = 2)

theorem raise_run (e : Nat) (vm : Vm) (u : Unit) (vm' : Vm) (h : (raise e).run vm = .ok (u, vm')) :
    vm'.running = 2 ∧ vm'.sp = vm.sp ∧ vm'.fp = vm.fp ∧ vm'.pp = vm.pp ∧ vm'.stackSize = vm.stackSize := by
  simp [raise, modify, modifyGet, MonadStateOf.modifyGet, StateT.modifyGet, StateT.run, pure, Except.pure] at h
  obtain ⟨_, rfl⟩ := h
  exact ⟨rfl, rfl, rfl, rfl, rfl⟩

theorem popExts_spec (n : Nat) : ∀ s, PopOpt s n (popExts n) := by
  induction n with
  | zero =>
    intro s vm r vm' hs h
    unfold popExts at h
    obtain ⟨rfl, rfl⟩ := (run_pure_ok _ _ _ _).mp h
    exact ⟨rfl, rfl, rfl, fun _ => by simp [hs], fun h => by cases h⟩
  | succ n ih =>
    intro s vm r vm' hs h
    unfold popExts at h
    obtain ⟨sp, v0, h0, h⟩ := (run_bind_ok _ _ _ _ _).mp h
    obtain ⟨rfl, rfl⟩ := getSp_run _ _ _ h0
    obtain ⟨a1, v1, h1, h⟩ := (run_bind_ok _ _ _ _ _).mp h
    obtain ⟨k1, k2, k3, k4⟩ := rel_rdAddr (R := SameRegs) _ _ _ _ h1
    obtain ⟨e, v2, h2, h⟩ := (run_bind_ok _ _ _ _ _).mp h
    obtain ⟨l1, l2, l3, l4⟩ := rel_getInt (R := SameRegs) _ _ _ _ h2
    obtain ⟨u, v3, h3, h⟩ := (run_bind_ok _ _ _ _ _).mp h
    obtain ⟨m1, m2, m3, m4, _⟩ := keeps_setSp_run _ _ _ _ h3
    split at h
    · obtain ⟨u2, v4, h4, h⟩ := (run_bind_ok _ _ _ _ _).mp h
      obtain ⟨q0, q1, q2, q3, q4⟩ := raise_run _ _ _ _ h4
      obtain ⟨rfl, rfl⟩ := (run_pure_ok _ _ _ _).mp h
      exact ⟨by omega, by omega, by omega, fun h => by simp at h, fun _ => q0⟩
    · obtain ⟨r2, v4, h4, h⟩ := (run_bind_ok _ _ _ _ _).mp h
      obtain ⟨p1, p2, p3, p4, p5⟩ := ih _ v3 r2 v4 m1 h4
      cases r2 with
      | none =>
        obtain ⟨rfl, rfl⟩ := (run_pure_ok _ _ _ _).mp h
        exact ⟨by omega, by omega, by omega, fun h => by simp at h, fun _ => p5 rfl⟩
      | some rr =>
        obtain ⟨rfl, rfl⟩ := (run_pure_ok _ _ _ _).mp h
        have := p4 rfl
        exact ⟨by omega, by omega, by omega, fun _ => by omega, fun h => by cases h⟩

theorem popIndices_spec (n : Nat) : ∀ s, PopOpt s n (popIndices n) := by
  induction n with
  | zero =>
    intro s vm r vm' hs h
    unfold popIndices at h
    obtain ⟨rfl, rfl⟩ := (run_pure_ok _ _ _ _).mp h
    exact ⟨rfl, rfl, rfl, fun _ => by simp [hs], fun h => by cases h⟩
  | succ n ih =>
    intro s vm r vm' hs h
    unfold popIndices at h
    obtain ⟨sp, v0, h0, h⟩ := (run_bind_ok _ _ _ _ _).mp h
    obtain ⟨rfl, rfl⟩ := getSp_run _ _ _ h0
    obtain ⟨a1, v1, h1, h⟩ := (run_bind_ok _ _ _ _ _).mp h
    obtain ⟨k1, k2, k3, k4⟩ := rel_rdAddr (R := SameRegs) _ _ _ _ h1
    obtain ⟨e, v2, h2, h⟩ := (run_bind_ok _ _ _ _ _).mp h
    obtain ⟨l1, l2, l3, l4⟩ := rel_getInt (R := SameRegs) _ _ _ _ h2
    obtain ⟨u, v3, h3, h⟩ := (run_bind_ok _ _ _ _ _).mp h
    obtain ⟨m1, m2, m3, m4, _⟩ := keeps_setSp_run _ _ _ _ h3
    split at h
    · obtain ⟨u2, v4, h4, h⟩ := (run_bind_ok _ _ _ _ _).mp h
      obtain ⟨q0, q1, q2, q3, q4⟩ := raise_run _ _ _ _ h4
      obtain ⟨rfl, rfl⟩ := (run_pure_ok _ _ _ _).mp h
      exact ⟨by omega, by omega, by omega, fun h => by simp at h, fun _ => q0⟩
    · obtain ⟨r2, v4, h4, h⟩ := (run_bind_ok _ _ _ _ _).mp h
      obtain ⟨p1, p2, p3, p4, p5⟩ := ih _ v3 r2 v4 m1 h4
      cases r2 with
      | none =>
        obtain ⟨rfl, rfl⟩ := (run_pure_ok _ _ _ _).mp h
        exact ⟨by omega, by omega, by omega, fun h => by simp at h, fun _ => p5 rfl⟩
      | some rr =>
        obtain ⟨rfl, rfl⟩ := (run_pure_ok _ _ _ _).mp h
        have := p4 rfl
        exact ⟨by omega, by omega, by omega, fun _ => by omega, fun h => by cases h⟩


/-- a Boolean-returning loop that keeps `sp`; `false` means it raised -/
theorem EffAt.bool_bind {β} {s d : Int} {f : M Bool} {g : Bool → M β} (hk : KeepsSp f)
    (hf : ∀ vm vm', f.run vm = .ok (false, vm') → vm'.running = 2)
    (ht : EffAt s d (g true)) (hfalse : ∀ vm b vm', (g false).run vm = .ok (b, vm') → vm' = vm) : EffAt s d (f >>= g) := by
  intro vm b vm'' hs h
  obtain ⟨r, vm', h1, h2⟩ := (run_bind_ok f g vm vm'' b).mp h
  obtain ⟨a1, a2, a3, a4⟩ := hk vm r vm' h1
  cases r with
  | true =>
    obtain ⟨b1, b2, b3, b4⟩ := ht vm' b vm'' (by omega) h2
    exact ⟨by omega, by omega, by omega, b4⟩
  | false =>
    have := hfalse vm' b vm'' h2
    subst this
    exact ⟨a2, a3, a4, Or.inr (Or.inl (hf vm _ h1))⟩

theorem composeRanges_false (r1 r2 res : Nat) (n : Nat) : ∀ d vm vm', (composeRanges r1 r2 res d n).run vm = .ok (false, vm') → vm'.running = 2 := by
  induction n with
  | zero =>
    intro d vm vm' h
    unfold composeRanges at h
    obtain ⟨h1, _⟩ := (run_pure_ok _ _ _ _).mp h
    cases h1
  | succ n ih =>
    intro d vm vm' h
    unfold composeRanges at h
    obtain ⟨p1, v1, h1, h⟩ := (run_bind_ok _ _ _ _ _).mp h
    obtain ⟨a, b⟩ := p1
    obtain ⟨p2, v2, h2, h⟩ := (run_bind_ok _ _ _ _ _).mp h
    obtain ⟨c, e⟩ := p2
    simp only at h
    split at h
    · obtain ⟨u, v3, h3, h⟩ := (run_bind_ok _ _ _ _ _).mp h
      obtain ⟨q0, _⟩ := raise_run _ _ _ _ h3
      obtain ⟨_, rfl⟩ := (run_pure_ok _ _ _ _).mp h
      exact q0
    · obtain ⟨fa, v3, h3, h⟩ := (run_bind_ok _ _ _ _ _).mp h
      obtain ⟨ta, v4, h4, h⟩ := (run_bind_ok _ _ _ _ _).mp h
      obtain ⟨u1, v5, h5, h⟩ := (run_bind_ok _ _ _ _ _).mp h
      obtain ⟨u2, v6, h6, h⟩ := (run_bind_ok _ _ _ _ _).mp h
      exact ih _ _ _ h


theorem EffAt.mov_bind {α β} {s d1 d2 d : Int} {f : M α} {g : α → M β} (hf : MovAt s d1 f) (hg : ∀ a, EffAt (s + d1) d2 (g a))
    (hd : d = d1 + d2) : EffAt s d (f >>= g) := by
  intro vm b vm'' hs h
  obtain ⟨a, vm', h1, h2⟩ := (run_bind_ok f g vm vm'' b).mp h
  obtain ⟨a1, a2, a3, a4⟩ := hf vm a vm' hs h1
  obtain ⟨b1, b2, b3, b4⟩ := hg a vm' b vm'' a1 h2
  refine ⟨by omega, by omega, by omega, ?_⟩
  rcases b4 with b4 | b4
  · left; omega
  · right; exact b4

theorem EffAt.popOpt_bind {α β} {s d2 d : Int} {n : Nat} {f : M (Option α)} {g : Option α → M β} (hf : PopOpt s n f)
    (hnone : ∀ vm b vm', (g none).run vm = .ok (b, vm') → vm' = vm)
    (hsome : ∀ x, EffAt (s - (n : Int)) d2 (g (some x))) (hd : d = -(n : Int) + d2) : EffAt s d (f >>= g) := by
  intro vm b vm'' hs h
  obtain ⟨r, vm', h1, h2⟩ := (run_bind_ok f g vm vm'' b).mp h
  obtain ⟨a1, a2, a3, a4, a5⟩ := hf vm r vm' hs h1
  cases r with
  | none =>
    have := hnone vm' b vm'' h2
    subst this
    exact ⟨a1, a2, a3, Or.inr (Or.inl (a5 rfl))⟩
  | some x =>
    obtain ⟨b1, b2, b3, b4⟩ := hsome x vm' b vm'' (a4 rfl) h2
    refine ⟨by omega, by omega, by omega, ?_⟩
    rcases b4 with b4 | b4
    · left; omega
    · right; exact b4

/-- a Boolean-returning popping loop: `true` = `n` slots popped, `false` = raised -/
theorem EffAt.boolmov_bind {β} {s d2 d : Int} {n : Nat} {f : M Bool} {g : Bool → M β}
    (hf : ∀ vm r vm', vm.sp = s → f.run vm = .ok (r, vm') →
      vm'.fp = vm.fp ∧ vm'.pp = vm.pp ∧ vm'.stackSize = vm.stackSize ∧ (r = true → vm'.sp = s - (n : Int)) ∧ (r = false → vm'.running = 2))
    (ht : EffAt (s - (n : Int)) d2 (g true)) (hfalse : ∀ vm b vm', (g false).run vm = .ok (b, vm') → vm' = vm)
    (hd : d = -(n : Int) + d2) : EffAt s d (f >>= g) := by
  intro vm b vm'' hs h
  obtain ⟨r, vm', h1, h2⟩ := (run_bind_ok f g vm vm'' b).mp h
  obtain ⟨a1, a2, a3, a4, a5⟩ := hf vm r vm' hs h1
  cases r with
  | true =>
    obtain ⟨b1, b2, b3, b4⟩ := ht vm' b vm'' (a4 rfl) h2
    refine ⟨by omega, by omega, by omega, ?_⟩
    rcases b4 with b4 | b4
    · left; omega
    · right; exact b4
  | false =>
    have := hfalse vm' b vm'' h2
    subst this
    exact ⟨a1, a2, a3, Or.inr (Or.inl (a5 rfl))⟩

theorem rangeDerefLoop_spec (range array : Nat) (n : Nat) : ∀ d s vm r vm', vm.sp = s → (rangeDerefLoop range array d n).run vm = .ok (r, vm') →
    vm'.fp = vm.fp ∧ vm'.pp = vm.pp ∧ vm'.stackSize = vm.stackSize ∧ (r = true → vm'.sp = s - (n : Int)) ∧ (r = false → vm'.running = 2) := by
  induction n with
  | zero =>
    intro d s vm r vm' hs h
    unfold rangeDerefLoop at h
    obtain ⟨rfl, rfl⟩ := (run_pure_ok _ _ _ _).mp h
    exact ⟨rfl, rfl, rfl, fun _ => by simp [hs], fun h => by cases h⟩
  | succ n ih =>
    intro d s vm r vm' hs h
    unfold rangeDerefLoop at h
    obtain ⟨p1, v1, h1, h⟩ := (run_bind_ok _ _ _ _ _).mp h
    obtain ⟨k1, k2, k3, k4⟩ := rel_rangePair (R := SameRegs) _ _ _ _ _ h1
    obtain ⟨f, t⟩ := p1
    simp only at h
    obtain ⟨sp, v0, h0, h⟩ := (run_bind_ok _ _ _ _ _).mp h
    obtain ⟨rfl, rfl⟩ := getSp_run _ _ _ h0
    obtain ⟨a1, v2, h2, h⟩ := (run_bind_ok _ _ _ _ _).mp h
    obtain ⟨l1, l2, l3, l4⟩ := rel_rdAddr (R := SameRegs) _ _ _ _ h2
    obtain ⟨i, v3, h3, h⟩ := (run_bind_ok _ _ _ _ _).mp h
    obtain ⟨m1, m2, m3, m4⟩ := rel_getInt (R := SameRegs) _ _ _ _ h3
    obtain ⟨u, v4, h4, h⟩ := (run_bind_ok _ _ _ _ _).mp h
    obtain ⟨n1, n2, n3, n4, _⟩ := keeps_setSp_run _ _ _ _ h4
    split at h
    · obtain ⟨u2, v5, h5, h⟩ := (run_bind_ok _ _ _ _ _).mp h
      obtain ⟨q0, q1, q2, q3, q4⟩ := raise_run _ _ _ _ h5
      obtain ⟨rfl, rfl⟩ := (run_pure_ok _ _ _ _).mp h
      exact ⟨by omega, by omega, by omega, fun h => Bool.noConfusion h, fun _ => q0⟩
    · obtain ⟨ra, v5, h5, h⟩ := (run_bind_ok _ _ _ _ _).mp h
      obtain ⟨o1, o2, o3, o4⟩ := rel_alloc (R := SameRegs) _ _ _ _ h5
      obtain ⟨u3, v6, h6, h⟩ := (run_bind_ok _ _ _ _ _).mp h
      obtain ⟨p1, p2, p3, p4⟩ := rel_setArrElem (R := SameRegs) _ _ _ _ _ _ h6
      obtain ⟨r1, r2, r3, r4, r5⟩ := ih _ _ v6 r vm' rfl h
      exact ⟨by omega, by omega, by omega, fun e => by have := r4 e; omega, r5⟩

/-- selects the handler of a concrete opcode inside `exec` and runs the effect automation -/
macro "exec_eff" h:ident : tactic => `(tactic|
  (unfold exec
   simp only [$h:ident, binOpOf, unOpOf, convOf, nilCmpOf, strAddOf, arrOpOf, mkArrayElem]
   eff))

macro "exec_sel" h:ident : tactic => `(tactic|
  (unfold exec
   simp only [$h:ident, binOpOf, unOpOf, convOf, nilCmpOf, strAddOf, arrOpOf, mkArrayElem]
   refine EffAt.getSp_bind ?_))

end Never.Vm
