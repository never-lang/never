/-
Lexical resolution: `resolveIdx` is the innermost binder; the evaluator reads exactly that
binder's cell; resolution (the binder index of every use of a program) is invariant under
admissible renaming.
-/
import NeverModel.Lemmas.SrcCollect
namespace Never.Src

variable {ν : Ren}

theorem resolveIdx_spec (x : Name) (bs : List Name) (i : Nat) :
    resolveIdx x bs = some i ↔ (bs[i]? = some x ∧ ∀ j, j < i → bs[j]? ≠ some x) := by
  induction bs generalizing i with
  | nil => simp [resolveIdx]
  | cons y bs ih =>
    by_cases h : x = y
    · subst h
      simp only [resolveIdx, if_true]
      constructor
      · intro hi
        injection hi with hi
        subst hi
        exact ⟨by simp, fun j hj => absurd hj (Nat.not_lt_zero j)⟩
      · intro ⟨h1, h2⟩
        cases i with
        | zero => rfl
        | succ i => exact absurd (by simp) (h2 0 (Nat.succ_pos i))
    · simp only [resolveIdx, h, if_false]
      cases i with
      | zero =>
        constructor
        · intro hi
          cases hr : resolveIdx x bs <;> simp [hr] at hi
        · intro ⟨h1, _⟩
          simp at h1
          exact absurd h1.symm h
      | succ i =>
        rw [Option.map_eq_some_iff]
        constructor
        · intro ⟨k, hk, hki⟩
          have hki' : k = i := by omega
          subst hki'
          obtain ⟨h1, h2⟩ := (ih k).mp hk
          refine ⟨by simpa using h1, ?_⟩
          intro j hj
          cases j with
          | zero => simp; exact fun heq => h heq.symm
          | succ j => simpa using h2 j (by omega)
        · intro ⟨h1, h2⟩
          refine ⟨i, (ih i).mpr ⟨by simpa using h1, ?_⟩, rfl⟩
          intro j hj
          have := h2 (j + 1) (by omega)
          simpa using this

theorem resolveIdx_none (x : Name) (bs : List Name) : resolveIdx x bs = none ↔ x ∉ bs := by
  induction bs with
  | nil => simp [resolveIdx]
  | cons y bs ih =>
    by_cases h : x = y
    · subst h; simp [resolveIdx]
    · simp [resolveIdx, h, ih]

/-- the evaluator's environment lookup reads the cell of the resolved binder -/
theorem lookup_eq_resolve (x : Name) (env : Env) :
    lookup x env = (resolveIdx x (names env)).bind (fun i => (locs env)[i]?) := by
  induction env with
  | nil => rfl
  | cons p env ih =>
    obtain ⟨y, l⟩ := p
    by_cases h : x = y
    · subst h; simp [lookup, resolveIdx]
    · simp only [lookup, h, if_false, names_cons, resolveIdx, locs_cons, ih]
      cases resolveIdx x (names env) <;> simp

theorem resolveIdx_rnD (hν : Adm ν) (x : Name) (bs : List Name) (L : Nat) (hL : bs.length ≤ L) :
    resolveIdx (rnVarD ν L bs x) (rnStack ν bs) = resolveIdx x bs := by
  induction bs with
  | nil => simp [resolveIdx, rnStack]
  | cons y bs ih =>
    simp only [List.length_cons] at hL
    by_cases h : x = y
    · subst h; simp [rnVarD, rnStack, resolveIdx]
    · have hne : rnVarD ν L bs x ≠ ν y bs.length := by
        obtain ⟨d, hd, hlt⟩ := rnVarD_form (ν := ν) L bs x
        rw [hd]
        intro heq
        cases hν.inj _ _ _ _ heq with
        | inl h1 => exact h h1
        | inr h1 =>
          cases hlt with
          | inl h2 => omega
          | inr h2 => omega
      simp only [rnVarD, h, if_false, rnStack, resolveIdx, hne]
      rw [ih (by omega)]

/-- **resolution is invariant under renaming** (one use) -/
theorem resolveIdx_rn (hν : Adm ν) (x : Name) (bs : List Name) :
    resolveIdx (rnVar ν bs x) (rnStack ν bs) = resolveIdx x bs :=
  resolveIdx_rnD hν x bs _ (Nat.le_refl _)

def rnUse (ν : Ren) (u : Name × List Name) : Name × List Name := (rnVar ν u.2 u.1, rnStack ν u.2)

mutual
theorem usesE_rn (hν : Adm ν) (bs : List Name) : ∀ e : Expr,
    usesE (rnStack ν bs) (rnE ν bs e) = (usesE bs e).map (rnUse ν)
  | .lit _ | .var _ | .dimVar _ | .enumVal _ _ => rfl
  | .un _ a => by simp only [rnE, usesE, usesE_rn hν bs a]
  | .bin _ a b | .and a b | .or a b | .assign a b | .while a b | .doWhile a b => by
    simp only [rnE, usesE, usesE_rn hν bs a, usesE_rn hν bs b, List.map_append]
  | .cond c t e => by simp only [rnE, usesE, usesE_rn hν bs c, usesE_rn hν bs t, usesE_rn hν bs e, List.map_append]
  | .seq items => by simp only [rnE, usesE, usesItems_rn hν bs items]
  | .for i c s b => by
    simp only [rnE, usesE, usesE_rn hν bs i, usesE_rn hν bs c, usesE_rn hν bs s, usesE_rn hν bs b, List.map_append]
  | .forIn x coll b => by
    have := usesE_rn hν (x :: bs) b
    rw [rnStack_cons] at this
    simp only [rnE, usesE, usesE_rn hν bs coll, this, List.map_append]
  | .call f args => by simp only [rnE, usesE, usesE_rn hν bs f, usesEs_rn hν bs args, List.map_append]
  | .pipe l f args => by
    simp only [rnE, usesE, usesE_rn hν bs l, usesE_rn hν bs f, usesEs_rn hν bs args, List.map_append]
  | .builtin _ args | .arrLit _ args _ | .arrNew args _ | .record _ args | .tuple args | .enumRec _ _ args | .range args => by
    simp only [rnE, usesE, usesEs_rn hν bs args]
  | .index a idx | .slice a idx => by simp only [rnE, usesE, usesE_rn hν bs a, usesEs_rn hν bs idx, List.map_append]
  | .lam (.mk id n ps r body cs) => by
    by_cases hn : n = ""
    · have := usesF_rn hν bs "" (.mk id n ps r body cs)
      simp only [rnE, hn, if_true, usesE, rnF] at this ⊢
      exact this
    · have hne : ν n bs.length ≠ "" := hν.nonempty _ _
      have := usesF_rn hν (n :: bs) (ν n bs.length) (.mk id n ps r body cs)
      rw [rnStack_cons] at this
      simp only [rnE, hn, if_false, usesE, rnF, hne] at this ⊢
      exact this
  | .field e _ => by simp only [rnE, usesE, usesE_rn hν bs e]
  | .matchE e gs => by simp only [rnE, usesE, usesE_rn hν bs e, usesGuards_rn hν bs gs, List.map_append]
  | .ifLet g e els => by
    simp only [rnE, usesE, usesE_rn hν bs e, usesGuard_rn hν bs g, usesE_rn hν bs els, List.map_append]
  | .listcomp body quals _ => by
    have := usesE_rn hν (qualBinders quals ++ bs) body
    rw [← qualBinders_rn] at this
    simp only [rnE, usesE, usesQuals_rn hν bs quals, this, List.map_append]
theorem usesEs_rn (hν : Adm ν) (bs : List Name) : ∀ es : List Expr,
    usesEs (rnStack ν bs) (rnEs ν bs es) = (usesEs bs es).map (rnUse ν)
  | [] => rfl
  | e :: es => by simp only [rnEs, usesEs, usesE_rn hν bs e, usesEs_rn hν bs es, List.map_append]
theorem usesItems_rn (hν : Adm ν) (bs : List Name) : ∀ items : List Item,
    usesItems (rnStack ν bs) (rnItems ν bs items) = (usesItems bs items).map (rnUse ν)
  | [] => rfl
  | .expr e :: rest => by simp only [rnItems, usesItems, usesE_rn hν bs e, usesItems_rn hν bs rest, List.map_append]
  | .bind _ x e :: rest => by
    have := usesItems_rn hν (x :: bs) rest
    rw [rnStack_cons] at this
    simp only [rnItems, usesItems, usesE_rn hν bs e, this, List.map_append]
  | .funcs fs :: rest => by
    have h1 := usesFs_rn hν ((funcNames fs).reverse ++ bs) bs.length fs
    have h2 := usesItems_rn hν ((funcNames fs).reverse ++ bs) rest
    rw [rnStack_rev_append] at h1 h2
    simp only [rnItems, usesItems, funcNames_rnFs, h1, h2, List.map_append]
theorem usesFs_rn (hν : Adm ν) (bs : List Name) (d : Nat) : ∀ fs : List Func,
    usesFs (rnStack ν bs) (rnFs ν bs d fs) = (usesFs bs fs).map (rnUse ν)
  | [] => rfl
  | .mk id n ps r body cs :: fs => by
    simp only [rnFs, usesFs, usesF_rn hν bs (ν n d) (.mk id n ps r body cs), usesFs_rn hν bs (d + 1) fs, List.map_append]
theorem usesF_rn (hν : Adm ν) (bs : List Name) (nn : Name) : ∀ fn : Func,
    usesF (rnStack ν bs) (rnF ν bs nn fn) = (usesF bs fn).map (rnUse ν)
  | .mk id n ps r body cs => by
    have hb := usesE_rn hν ((paramBinders ps).reverse ++ bs) body
    have hc := usesCatches_rn hν ((paramBinders ps).reverse ++ bs) cs
    rw [rnStack_rev_append] at hb hc
    simp only [rnF, usesF, paramBinders_rn, hb, hc, List.map_append]
theorem usesCatches_rn (hν : Adm ν) (bs : List Name) : ∀ cs : List Catch,
    usesCatches (rnStack ν bs) (rnCatches ν bs cs) = (usesCatches bs cs).map (rnUse ν)
  | [] => rfl
  | .mk _ b :: cs => by simp only [rnCatches, usesCatches, usesE_rn hν bs b, usesCatches_rn hν bs cs, List.map_append]
theorem usesGuard_rn (hν : Adm ν) (bs : List Name) : ∀ g : Guard,
    usesGuard (rnStack ν bs) (rnGuard ν bs g) = (usesGuard bs g).map (rnUse ν)
  | .item _ _ b | .els b => by simp only [rnGuard, usesGuard, usesE_rn hν bs b]
  | .recd _ _ binds b => by
    have := usesE_rn hν (binds.reverse ++ bs) b
    rw [rnStack_rev_append] at this
    simp only [rnGuard, usesGuard, this]
theorem usesGuards_rn (hν : Adm ν) (bs : List Name) : ∀ gs : List Guard,
    usesGuards (rnStack ν bs) (rnGuards ν bs gs) = (usesGuards bs gs).map (rnUse ν)
  | [] => rfl
  | g :: gs => by simp only [rnGuards, usesGuards, usesGuard_rn hν bs g, usesGuards_rn hν bs gs, List.map_append]
theorem usesQuals_rn (hν : Adm ν) (bs : List Name) : ∀ qs : List Qual,
    usesQuals (rnStack ν bs) (rnQuals ν bs qs) = (usesQuals bs qs).map (rnUse ν)
  | [] => rfl
  | .filter e :: qs => by simp only [rnQuals, usesQuals, usesE_rn hν bs e, usesQuals_rn hν bs qs, List.map_append]
  | .gen x coll :: qs => by
    have := usesQuals_rn hν (x :: bs) qs
    rw [rnStack_cons] at this
    simp only [rnQuals, usesQuals, usesE_rn hν bs coll, this, List.map_append]
end

end Never.Src
