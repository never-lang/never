import NeverModel.Model.Vm
/-! lemmas on the pure frame operations of M-VM (`rdP`, `wrP`, `markP`, `retP`, `slideP`, …): for each operation what
success means — the bounds it checked and the machine it returns — and from that its effect on the slots -/
namespace Never.Vm
open Never

/-- the machine's stack array has the configured size -/
def StackOk (vm : Vm) : Prop := vm.stack.size = vm.stackSize

theorem bind_eq_ok {ε α β : Type} {x : Except ε α} {f : α → Except ε β} {b : β} :
    (x >>= f) = .ok b ↔ ∃ a, x = .ok a ∧ f a = .ok b := by
  cases x <;> simp [bind, Except.bind]

/-! ### slots of a stack array -/

def slotA (a : Array Slot) (j : Int) : Slot := if j < 0 then .unknown else a[j.toNat]?.getD .unknown

theorem slot_eq (vm : Vm) (j : Int) : slot vm j = slotA vm.stack j := rfl

theorem slotA_set_ne {a : Array Slot} {i j : Int} (h0 : 0 ≤ i) (hji : j ≠ i) (s : Slot) :
    slotA (a.setIfInBounds i.toNat s) j = slotA a j := by
  unfold slotA
  split
  · rfl
  · have : i.toNat ≠ j.toNat := by omega
    rw [Array.getElem?_setIfInBounds_ne this]

theorem slotA_set {a : Array Slot} {i : Int} (h0 : 0 ≤ i) (h1 : i < a.size) (s : Slot) (j : Int) :
    slotA (a.setIfInBounds i.toNat s) j = if j = i then s else slotA a j := by
  split
  · next hji =>
    subst hji
    have : j.toNat < a.size := by omega
    simp [slotA, this, Int.not_lt.mpr h0]
  · next hji => exact slotA_set_ne h0 hji s

/-! ### reads, writes, the stack check -/

theorem rdP_ok {vm : Vm} {i : Int} {s : Slot} : rdP vm i = .ok s ↔ (0 ≤ i ∧ i < vm.stackSize) ∧ s = slot vm i := by
  unfold rdP slot
  split
  · exact ⟨nofun, fun h => by omega⟩
  · have : ¬ i < 0 := by omega
    simp only [this, if_false, Except.ok.injEq]
    exact ⟨fun h => ⟨by omega, h.symm⟩, fun h => h.2.symm⟩

theorem wrP_ok {vm vm' : Vm} {i : Int} {s : Slot} :
    wrP vm i s = .ok vm' ↔ (0 ≤ i ∧ i < vm.stackSize) ∧ vm' = { vm with stack := vm.stack.setIfInBounds i.toNat s } := by
  unfold wrP
  split
  · exact ⟨nofun, fun h => by omega⟩
  · simp only [Except.ok.injEq]
    exact ⟨fun h => ⟨by omega, h.symm⟩, fun h => h.2.symm⟩

theorem wrP_oob {vm : Vm} {i : Int} {s : Slot} (h : i < 0 ∨ i ≥ vm.stackSize) :
    wrP vm i s = .error (.crash "stack write out of bounds") := by
  unfold wrP; simp [h]

theorem checkP_ok {vm vm' : Vm} : checkP vm = .ok vm' ↔ vm.sp < vm.stackSize ∧ vm' = vm := by
  unfold checkP
  split
  · exact ⟨nofun, fun h => by omega⟩
  · simp only [Except.ok.injEq]
    exact ⟨fun h => ⟨by omega, h.symm⟩, fun h => h.2.symm⟩

theorem checkP_exit {vm : Vm} (h : vm.sp ≥ vm.stackSize) : ∃ t, checkP vm = .error (.exit "stack too large" t) := by
  unfold checkP; simp [h]

/-! ### MARK -/

/-- the five frame words above `sp` lie inside a stack of `n` slots -/
theorem frame_words {sp : Int} {n : Nat} (h0 : -1 ≤ sp) (h1 : sp + 5 < n) (k : Int) (hk : 1 ≤ k) (hk' : k ≤ 5) :
    0 ≤ sp + k ∧ sp + k < n := by
  omega

/-- MARK succeeds exactly when the five words fit, and then returns this machine -/
theorem markP_ok {vm vm' : Vm} {retAddr : Nat} : markP vm retAddr = .ok vm' ↔ (-1 ≤ vm.sp ∧ vm.sp + 5 < vm.stackSize) ∧
    vm' = { vm with sp := vm.sp + 5, fp := vm.sp + 5, stack :=
      ((((vm.stack.setIfInBounds (vm.sp + 5).toNat (.ip retAddr)).setIfInBounds (vm.sp + 4).toNat (.stk vm.fp)).setIfInBounds
        (vm.sp + 3).toNat (.addr vm.gp)).setIfInBounds (vm.sp + 2).toNat (.ip vm.line)).setIfInBounds (vm.sp + 1).toNat (.stk vm.pp) } := by
  unfold markP
  simp only [bind_eq_ok, checkP_ok, wrP_ok, and_assoc, exists_and_left, exists_eq_left, Except.ok.injEq]
  constructor
  · intro h
    exact ⟨by omega, by omega, h.2.2.2.2.2.2.2.2.2.2.2.symm⟩
  · intro ⟨h0, h1, e⟩
    have w := frame_words h0 h1
    exact ⟨h1, (w 5 (by decide) (by decide)).1, h1, (w 4 (by decide) (by decide)).1, (w 4 (by decide) (by decide)).2,
      (w 3 (by decide) (by decide)).1, (w 3 (by decide) (by decide)).2, (w 2 (by decide) (by decide)).1,
      (w 2 (by decide) (by decide)).2, (w 1 (by decide) (by decide)).1, (w 1 (by decide) (by decide)).2, e.symm⟩

/-- five words written above `sp`, read back -/
theorem slotA_mark {a : Array Slot} {sp : Int} (h0 : -1 ≤ sp) (h1 : sp + 5 < a.size) (w1 w2 w3 w4 w5 : Slot) (j : Int) :
    slotA (((((a.setIfInBounds (sp + 5).toNat w5).setIfInBounds (sp + 4).toNat w4).setIfInBounds (sp + 3).toNat w3).setIfInBounds
      (sp + 2).toNat w2).setIfInBounds (sp + 1).toNat w1) j =
    if j = sp + 1 then w1 else if j = sp + 2 then w2 else if j = sp + 3 then w3 else if j = sp + 4 then w4 else
      if j = sp + 5 then w5 else slotA a j := by
  have w := frame_words h0 h1
  rw [slotA_set (w 1 (by decide) (by decide)).1 (by simp only [Array.size_setIfInBounds]; exact (w 1 (by decide) (by decide)).2),
    slotA_set (w 2 (by decide) (by decide)).1 (by simp only [Array.size_setIfInBounds]; exact (w 2 (by decide) (by decide)).2),
    slotA_set (w 3 (by decide) (by decide)).1 (by simp only [Array.size_setIfInBounds]; exact (w 3 (by decide) (by decide)).2),
    slotA_set (w 4 (by decide) (by decide)).1 (by simp only [Array.size_setIfInBounds]; exact (w 4 (by decide) (by decide)).2),
    slotA_set (w 5 (by decide) (by decide)).1 (w 5 (by decide) (by decide)).2]

/-- effect of MARK when the five words fit -/
structure MarkPost (vm vm' : Vm) (retAddr : Nat) : Prop where
  sp : vm'.sp = vm.sp + 5
  fp : vm'.fp = vm.sp + 5
  pp : vm'.pp = vm.pp
  gp : vm'.gp = vm.gp
  ip : vm'.ip = vm.ip
  size : vm'.stackSize = vm.stackSize
  ok : StackOk vm'
  w1 : slot vm' (vm.sp + 1) = .stk vm.pp
  w2 : slot vm' (vm.sp + 2) = .ip vm.line
  w3 : slot vm' (vm.sp + 3) = .addr vm.gp
  w4 : slot vm' (vm.sp + 4) = .stk vm.fp
  w5 : slot vm' (vm.sp + 5) = .ip retAddr
  below : ∀ j, j ≤ vm.sp → slot vm' j = slot vm j
  gc : vm'.gc = vm.gc
  run : vm'.running = vm.running ∧ vm'.exception = vm.exception ∧ vm'.out = vm.out ∧ vm'.line = vm.line

theorem markP_spec (vm : Vm) (retAddr : Nat) (hs : StackOk vm) (h0 : -1 ≤ vm.sp) (h1 : vm.sp + 5 < vm.stackSize) :
    ∃ vm', markP vm retAddr = .ok vm' ∧ MarkPost vm vm' retAddr := by
  refine ⟨_, markP_ok.mpr ⟨⟨h0, h1⟩, rfl⟩, rfl, rfl, rfl, rfl, rfl, rfl, ?_, ?_, ?_, ?_, ?_, ?_, ?_, rfl, ⟨rfl, rfl, rfl, rfl⟩⟩
  · simpa [StackOk] using hs
  all_goals
    try intro j hj
    simp only [slot_eq]
    rw [slotA_mark h0 (by rw [hs]; exact h1)]
  · simp
  · simp
  · simp
  · simp
  · simp
  · have a1 : j ≠ vm.sp + 1 := by omega
    have a2 : j ≠ vm.sp + 2 := by omega
    have a3 : j ≠ vm.sp + 3 := by omega
    have a4 : j ≠ vm.sp + 4 := by omega
    have a5 : j ≠ vm.sp + 5 := by omega
    simp [a1, a2, a3, a4, a5]

/-- MARK on a stack that is too small: reported BEFORE any write (since the `fix:` commit b857a09) -/
theorem markP_overflow (vm : Vm) (retAddr : Nat) (h : vm.sp + 5 ≥ vm.stackSize) :
    ∃ t, markP vm retAddr = .error (.exit "stack too large" t) := by
  obtain ⟨t, ht⟩ := checkP_exit (vm := { vm with sp := vm.sp + 5 }) (by show vm.sp + 5 ≥ vm.stackSize; exact h)
  refine ⟨t, ?_⟩
  unfold markP
  dsimp only [bind, Except.bind]
  rw [ht]

/-- the pinned MARK did not report a stack that is too small: its first write already landed outside -/
theorem markPinnedP_overflow (vm : Vm) (retAddr : Nat) (h : vm.sp + 5 ≥ vm.stackSize) :
    markPinnedP vm retAddr = .error (.crash "stack write out of bounds") := by
  unfold markPinnedP
  dsimp only [bind, Except.bind]
  rw [wrP_oob (vm := vm) (i := vm.sp + 5) (s := .ip retAddr) (Or.inr h)]

/-! ### RET -/

/-- RET succeeds exactly when the frame words and the result slot are inside the stack, and then returns this machine -/
theorem retP_ok {vm vm' : Vm} : retP vm = .ok vm' ↔
    (4 ≤ vm.fp ∧ vm.fp < vm.stackSize ∧ 0 ≤ vm.sp ∧ vm.sp < vm.stackSize) ∧
    vm' = { vm with
      stack := vm.stack.setIfInBounds (vm.fp - 4).toNat (slot vm vm.sp)
      gp := (slot vm (vm.fp - 2)).asAddr
      ip := (slot vm vm.fp).asAddr
      pp := (slot vm (vm.fp - 4)).asInt
      sp := vm.fp - 4
      fp := (slot vm (vm.fp - 1)).asInt } := by
  unfold retP
  simp only [bind_eq_ok, rdP_ok, wrP_ok, and_assoc, exists_and_left, exists_eq_left, Except.ok.injEq]
  constructor
  · intro ⟨_, _, _, _, _, _, _, _, _, _, _, _, e⟩
    refine ⟨by omega, by omega, by omega, by omega, ?_⟩
    rw [← e, slot_eq _ (vm.fp - 1), slotA_set_ne (by omega) (by omega)]
    rfl
  · intro ⟨h4, hfp, h0, hsp, e⟩
    have w : ∀ k : Int, 1 ≤ k → k ≤ 4 → 0 ≤ vm.fp - k ∧ vm.fp - k < vm.stackSize := by
      intro k _ _
      omega
    refine ⟨(w 2 (by decide) (by decide)).1, (w 2 (by decide) (by decide)).2, by omega, hfp, (w 4 (by decide) (by decide)).1,
      (w 4 (by decide) (by decide)).2, h0, hsp, (w 4 (by decide) (by decide)).1, (w 4 (by decide) (by decide)).2,
      (w 1 (by decide) (by decide)).1, (w 1 (by decide) (by decide)).2, ?_⟩
    rw [e, slot_eq _ (vm.fp - 1), slotA_set_ne (w 4 (by decide) (by decide)).1 (by omega)]
    rfl

/-- effect of RET (before the collection it triggers) -/
structure RetPost (vm vm' : Vm) : Prop where
  sp : vm'.sp = vm.fp - 4
  fp : vm'.fp = (slot vm (vm.fp - 1)).asInt
  pp : vm'.pp = (slot vm (vm.fp - 4)).asInt
  gp : vm'.gp = (slot vm (vm.fp - 2)).asAddr
  ip : vm'.ip = (slot vm vm.fp).asAddr
  res : slot vm' (vm.fp - 4) = slot vm vm.sp
  other : ∀ j, j ≠ vm.fp - 4 → slot vm' j = slot vm j
  ok : StackOk vm'
  size : vm'.stackSize = vm.stackSize
  gc : vm'.gc = vm.gc

theorem retP_spec (vm : Vm) (hs : StackOk vm) (hfp : 4 ≤ vm.fp) (hfp' : vm.fp < vm.stackSize)
    (hsp0 : 0 ≤ vm.sp) (hsp : vm.sp < vm.stackSize) :
    ∃ vm', retP vm = .ok vm' ∧ RetPost vm vm' := by
  refine ⟨_, retP_ok.mpr ⟨⟨hfp, hfp', hsp0, hsp⟩, rfl⟩, rfl, rfl, rfl, rfl, rfl, ?_, ?_, ?_, rfl, rfl⟩
  · simp only [slot_eq]
    rw [slotA_set (by omega) (by rw [hs]; omega), if_pos rfl]
  · intro j hj
    simp only [slot_eq]
    rw [slotA_set_ne (by omega) hj]
  · simpa [StackOk] using hs


/-! ### PUSH -/

theorem pushP_ok {vm vm' : Vm} {a : Nat} : pushP vm a = .ok vm' ↔ (-1 ≤ vm.sp ∧ vm.sp + 1 < vm.stackSize) ∧
    vm' = { vm with sp := vm.sp + 1, stack := vm.stack.setIfInBounds (vm.sp + 1).toNat (.addr a) } := by
  unfold pushP
  simp only [bind_eq_ok, checkP_ok, wrP_ok, and_assoc, exists_and_left, exists_eq_left]
  exact ⟨fun ⟨_, _, _, e⟩ => ⟨by omega, by omega, e⟩, fun ⟨_, h, e⟩ => ⟨h, by omega, h, e⟩⟩

/-- PUSH of an address: in bounds or reported, never a wild write -/
theorem pushP_spec (vm : Vm) (a : Nat) (hs : StackOk vm) (h0 : -1 ≤ vm.sp) :
    (vm.sp + 1 ≥ vm.stackSize → ∃ t, pushP vm a = .error (.exit "stack too large" t)) ∧
    (vm.sp + 1 < vm.stackSize → ∃ vm', pushP vm a = .ok vm' ∧ vm'.sp = vm.sp + 1 ∧ slot vm' (vm.sp + 1) = .addr a ∧
        (∀ j, j ≠ vm.sp + 1 → slot vm' j = slot vm j) ∧ vm'.fp = vm.fp ∧ vm'.pp = vm.pp ∧ StackOk vm' ∧ vm'.stackSize = vm.stackSize) := by
  constructor
  · intro h
    unfold pushP
    obtain ⟨t, ht⟩ := checkP_exit (vm := { vm with sp := vm.sp + 1 }) h
    exact ⟨t, by dsimp only [bind, Except.bind]; rw [ht]⟩
  · intro h
    refine ⟨_, pushP_ok.mpr ⟨⟨h0, h⟩, rfl⟩, rfl, ?_, ?_, rfl, rfl, ?_, rfl⟩
    · simp only [slot_eq]
      rw [slotA_set (by omega) (by rw [hs]; omega), if_pos rfl]
    · intro j hj
      simp only [slot_eq]
      rw [slotA_set_ne (by omega) hj]
    · simpa [StackOk] using hs

/-! ### SLIDE -/

structure SlidePost (vm vm' : Vm) (q n : Nat) : Prop where
  sp : vm'.sp = vm.sp + n
  fp : vm'.fp = vm.fp
  pp : vm'.pp = vm.pp
  gp : vm'.gp = vm.gp
  size : vm'.stackSize = vm.stackSize
  ok : StackOk vm'
  moved : ∀ i : Nat, i < n → slot vm' (vm.sp + 1 + i) = slot vm (vm.sp + 1 + i + q)
  below : ∀ j, j ≤ vm.sp → slot vm' j = slot vm j
  above : ∀ j, j > vm.sp + n → slot vm' j = slot vm j

theorem slideLoopP_spec (q : Nat) (hq : 0 < q) : ∀ (n : Nat) (vm : Vm), StackOk vm → -1 ≤ vm.sp →
    vm.sp + n + q < vm.stackSize → ∃ vm', slideLoopP q n vm = .ok vm' ∧ SlidePost vm vm' q n := by
  intro n
  induction n with
  | zero =>
    intro vm hs _ _
    exact ⟨vm, rfl, by simp, rfl, rfl, rfl, rfl, hs, by intro i hi; omega, fun _ _ => rfl, fun _ _ => rfl⟩
  | succ n ih =>
    intro vm hs h0 h1
    -- one step: the slot `q` above the new top is copied down; `v1` is the machine after it
    obtain ⟨v1, hv1⟩ : ∃ v1 : Vm, v1 = { vm with sp := vm.sp + 1, stack := vm.stack.setIfInBounds (vm.sp + 1).toNat (slot vm (vm.sp + 1 + q)) } := ⟨_, rfl⟩
    have step : slideLoopP q (n + 1) vm = slideLoopP q n v1 := by
      rw [slideLoopP]
      dsimp only [bind, Except.bind]
      rw [rdP_ok.mpr ⟨⟨by omega, by omega⟩, rfl⟩]
      dsimp only
      rw [wrP_ok.mpr ⟨⟨by omega, by show vm.sp + 1 < vm.stackSize; omega⟩, rfl⟩, hv1]
    have hsp1 : v1.sp = vm.sp + 1 := by rw [hv1]
    have s1 : ∀ j, slot v1 j = if j = vm.sp + 1 then slot vm (vm.sp + 1 + q) else slot vm j := by
      intro j
      rw [hv1, slot_eq, slot_eq vm j]
      exact slotA_set (by omega) (by rw [hs]; omega) _ j
    have hs1 : StackOk v1 := by rw [hv1]; simpa [StackOk] using hs
    obtain ⟨v2, e2, p2⟩ := ih v1 hs1 (by omega) (by rw [hsp1, hv1]; show vm.sp + 1 + n + q < vm.stackSize; omega)
    refine ⟨v2, step.trans e2, ?_⟩
    refine ⟨by rw [p2.sp, hsp1]; omega, by rw [p2.fp, hv1], by rw [p2.pp, hv1], by rw [p2.gp, hv1],
      by rw [p2.size, hv1], p2.ok, ?_, ?_, ?_⟩
    · intro i hi
      cases i with
      | zero =>
        have h := p2.below (vm.sp + 1) (by omega)
        have e0 : vm.sp + 1 + ((0 : Nat) : Int) = vm.sp + 1 := by omega
        rw [e0, h, s1, if_pos rfl]
      | succ i =>
        have hm := p2.moved i (by omega)
        rw [hsp1] at hm
        have e : vm.sp + 1 + ((i + 1 : Nat) : Int) = vm.sp + 1 + 1 + (i : Int) := by omega
        rw [e, hm, s1]
        have : vm.sp + 1 + 1 + (i : Int) + (q : Int) ≠ vm.sp + 1 := by omega
        rw [if_neg this]
    · intro j hj
      rw [p2.below j (by omega), s1]
      have : j ≠ vm.sp + 1 := by omega
      rw [if_neg this]
    · intro j hj
      rw [p2.above j (by rw [hsp1]; omega), s1]
      have : j ≠ vm.sp + 1 := by omega
      rw [if_neg this]

/-- SLIDE q m (m > 0, q > 0): the top m slots move down by q, sp drops by q -/
theorem slideP_spec (vm : Vm) (q m : Nat) (hs : StackOk vm) (hq : 0 < q) (hm : 0 < m)
    (hlo : -1 ≤ vm.sp - q - m) (hhi : vm.sp < vm.stackSize) :
    ∃ vm', slideP vm q m = .ok vm' ∧ vm'.sp = vm.sp - q ∧ vm'.fp = vm.fp ∧ vm'.pp = vm.pp ∧ vm'.gp = vm.gp ∧ StackOk vm' ∧
      vm'.stackSize = vm.stackSize ∧
      (∀ i : Nat, i < m → slot vm' (vm.sp - q - m + 1 + i) = slot vm (vm.sp - m + 1 + i)) ∧
      (∀ j, j ≤ vm.sp - q - m → slot vm' j = slot vm j) := by
  unfold slideP
  have hq' : (q == 0) = false := by simp; omega
  have hm' : (m == 0) = false := by simp; omega
  simp only [hq', hm', Bool.false_eq_true, if_false]
  obtain ⟨v, e, p⟩ := slideLoopP_spec q hq m { vm with sp := vm.sp - q - m } hs hlo (by show vm.sp - q - m + m + q < vm.stackSize; omega)
  refine ⟨v, e, by rw [p.sp]; show vm.sp - q - m + m = vm.sp - q; omega, p.fp, p.pp, p.gp, p.ok, p.size, ?_, ?_⟩
  · intro i hi
    have := p.moved i hi
    have e1 : (({ vm with sp := vm.sp - q - m } : Vm)).sp = vm.sp - q - m := rfl
    rw [e1] at this
    rw [this]
    show slot vm _ = slot vm _
    congr 1; omega
  · intro j hj
    exact p.below j hj

/-! ### MARK … RET -/

/-- a frame built by MARK at stack height `sp0` and popped by RET — whatever happened in between, as long as the five frame
words are intact — restores fp, pp, gp, continues at the MARK's return address and leaves the callee's result in slot `sp0 + 1` -/
theorem markP_retP (vm0 vm1 vm2 : Vm) (retAddr : Nat)
    (hs0 : StackOk vm0) (h0 : -1 ≤ vm0.sp) (h1 : vm0.sp + 5 < vm0.stackSize)
    (hm : markP vm0 retAddr = .ok vm1)
    (hs2 : StackOk vm2) (hsz : vm2.stackSize = vm0.stackSize) (hfp : vm2.fp = vm0.sp + 5)
    (hframe : ∀ k : Int, 1 ≤ k → k ≤ 5 → slot vm2 (vm0.sp + k) = slot vm1 (vm0.sp + k))
    (hsp0 : 0 ≤ vm2.sp) (hsp : vm2.sp < vm2.stackSize) :
    ∃ vm3, retP vm2 = .ok vm3 ∧ vm3.sp = vm0.sp + 1 ∧ vm3.fp = vm0.fp ∧ vm3.pp = vm0.pp ∧ vm3.gp = vm0.gp ∧
      vm3.ip = retAddr ∧ slot vm3 (vm0.sp + 1) = slot vm2 vm2.sp ∧ (∀ j, j ≤ vm0.sp → slot vm3 j = slot vm2 j) := by
  obtain ⟨vm1', hm', mp⟩ := markP_spec vm0 retAddr hs0 h0 h1
  rw [hm] at hm'; cases hm'
  obtain ⟨vm3, hr, rp⟩ := retP_spec vm2 hs2 (by omega) (by rw [hfp, hsz]; exact h1) hsp0 hsp
  refine ⟨vm3, hr, ?_, ?_, ?_, ?_, ?_, ?_, ?_⟩
  · rw [rp.sp, hfp]; omega
  · rw [rp.fp, hfp]
    have : vm0.sp + 5 - 1 = vm0.sp + 4 := by omega
    rw [this, hframe 4 (by decide) (by decide), mp.w4]; rfl
  · rw [rp.pp, hfp]
    have : vm0.sp + 5 - 4 = vm0.sp + 1 := by omega
    rw [this, hframe 1 (by decide) (by decide), mp.w1]; rfl
  · rw [rp.gp, hfp]
    have : vm0.sp + 5 - 2 = vm0.sp + 3 := by omega
    rw [this, hframe 3 (by decide) (by decide), mp.w3]; rfl
  · rw [rp.ip, hfp, hframe 5 (by decide) (by decide), mp.w5]; rfl
  · have : vm0.sp + 1 = vm2.fp - 4 := by rw [hfp]; omega
    rw [this]; exact rp.res
  · intro j hj
    exact rp.other j (by rw [hfp]; omega)

end Never.Vm
