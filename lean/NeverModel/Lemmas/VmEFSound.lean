import NeverModel.Lemmas.VmEF
import NeverModel.Lemmas.VerCert
set_option linter.unusedSimpArgs false
/-! The verifier's effect table against the handlers (`exec_ef`): effect and footprint of every table instruction.  The handlers
that are a block of helpers, popping loops, stack stores and `sp` updates go through one walk over `exec` (`exec_ef_plain`); the
seven opcode families, `RECORD_UNPACK` and `BUILD_IN` are proved apart. -/
namespace Never.Vm
open Never Never.Num Never.Ver

/-- the two table opcodes whose effect is not read off the handler by the walk alone: `RECORD_UNPACK` (the count is the length of the
vector it reads, equal to the operand only behind its guard) and `BUILD_IN` (the count depends on the build-in's number) -/
def isSpecial : Opc → Bool
  | .RECORD_UNPACK | .BUILD_IN => true
  | _ => false

theorem isSpecial_cases {op : Opc} (h : isSpecial op = true) : op = .RECORD_UNPACK ∨ op = .BUILD_IN := by
  unfold isSpecial at h
  split at h <;> simp_all

/-- effect and footprint of every table handler outside the opcode families and the special ones -/
theorem exec_ef_plain (md : Module) (ins : Instr) (orc : Oracle) (p q : Nat) (h : simpleEffect ins = some (p, q)) (s : Int)
    (hb : binOpOf ins.op = none) (hu : unOpOf ins.op = none) (hc : convOf ins.op = none) (hn : nilCmpOf ins.op = none)
    (hs : strAddOf ins.op = none) (ha : arrOpOf ins.op = none) (hm : mkArrayElem ins.op = none) (hsp : isSpecial ins.op = false) :
    EF s ((q : Int) - (p : Int)) (s - (p : Int) + 1) (exec md ins orc) := by
  unfold exec
  simp only [hb, hu, hc, hn, hs, ha, hm]
  refine EF.getSp_bind ?_
  split
  all_goals first
    | (rename_i hop; rw [hop] at hsp; exact Bool.noConfusion hsp)
    | (rename_i hop; rw [simpleEffect_op hop] at h; cases h <;> ((try dsimp only); ef))
    | exact EF.crash _

/-- net stack movement of build-in `id` (pow and assertf take two operands, read takes none) -/
def buildInDelta (id : Nat) : Int := if id = 7 ∨ id = 22 then -1 else if id = 12 then 1 else 0

/-- operands popped by build-in `id` -/
def buildInPops (id : Nat) : Int := if id = 7 ∨ id = 22 then 2 else if id = 12 then 0 else 1

/-- the build-ins store their result over their lowest operand (`read`, id 12, pushes) -/
theorem buildIn_ef (id : Nat) (orc : Oracle) (s : Int) : EF s (buildInDelta id) (s - buildInPops id + 1) (buildIn id orc) := by
  unfold buildIn
  refine EF.getSp_bind ?_
  refine EF.quiet_bind (by vm_rel) fun top => ?_
  dsimp only
  split
  all_goals first
    | exact EF.crash _
    | (simp +decide only [buildInDelta, buildInPops, ↓reduceIte, if_false, if_true]; ef)

theorem ef_RECORD_UNPACK (md : Module) (ins : Instr) (orc : Oracle) (s : Int) (h : ins.op = .RECORD_UNPACK) :
    EF s ((ins.w0 : Nat) - 1) s (exec md ins orc) := by
  unfold exec
  simp only [h, binOpOf, unOpOf, convOf, nilCmpOf, strAddOf, arrOpOf, mkArrayElem]
  refine EF.getSp_bind (EF.quiet_bind (rel_rdAddr _) fun _ => EF.quiet_bind (rel_getVecObj _) fun fs => ?_)
  split
  · ef
  · rename_i hne
    have hw : ins.w0 = fs.length := by
      have := hne; simp only [bne_iff_ne, ne_eq, Decidable.not_not] at this; exact this
    ef

theorem ef_BUILD_IN (md : Module) (ins : Instr) (orc : Oracle) (s : Int) (h : ins.op = .BUILD_IN) :
    EF s (buildInDelta ins.w0) (s - buildInPops ins.w0 + 1) (exec md ins orc) := by
  unfold exec
  simp only [h, binOpOf, unOpOf, convOf, nilCmpOf, strAddOf, arrOpOf, mkArrayElem]
  exact EF.getSp_bind (buildIn_ef _ _ _)

/-! ### the opcode families -/

theorem EffAt.of_pops {s : Int} {d : Int} {f : M Unit} (h : PopsOrRaises f d) : EffAt s (-d) f := by
  intro vm a vm' hs hr
  obtain ⟨a1, a2, a3, a4⟩ := h vm vm' hr
  refine ⟨a1, a2, a3, ?_⟩
  rcases a4 with a4 | ⟨_, a4⟩
  · left; omega
  · right; left; exact a4

/-- the typed arithmetic handlers: behind `resOf … = none` the handler returns with `sp` unmoved, and only `resOf_none_raised` knows
that an exception is then raised; so the effect comes from `PopsOrRaises`, not from the walk (the footprint does) -/
theorem ef_execBin (ty : NTy) (bop : BinOp) (s : Int) : EF s (-1) (s - 1) (execBin ty bop) :=
  ⟨EffAt.of_pops (execBin_effect ty bop), by unfold execBin; foot⟩
theorem ef_execUn (ty : NTy) (uop : UnOp) (s : Int) : EF s 0 s (execUn ty uop) :=
  ⟨EffAt.congr_d (EffAt.of_pops (execUn_effect ty uop)) (by omega), by unfold execUn; foot⟩
theorem ef_execConv (src dst : NTy) (s : Int) : EF s 0 s (execConv src dst) :=
  ⟨EffAt.congr_d (EffAt.of_pops (execConv_effect src dst)) (by omega), by unfold execConv; foot⟩

/-- `exec` hands the instruction to `f` -/
theorem EF.of_exec {md : Module} {ins : Instr} {orc : Oracle} {f : M Unit} {s d lo : Int} (he : ∀ vm, (exec md ins orc).run vm = f.run vm)
    (h : EF s d lo f) : EF s d lo (exec md ins orc) :=
  ⟨fun vm a vm' hs hr => h.1 vm a vm' hs (he vm ▸ hr), fun vm a vm' hs hr => h.2 vm a vm' hs (he vm ▸ hr)⟩

theorem ef_nilCmp (md : Module) (ins : Instr) (orc : Oracle) (s : Int) (k : Nat) (nl ng : Bool) (hb : binOpOf ins.op = none) (hu : unOpOf ins.op = none) (hc : convOf ins.op = none)
    (h : nilCmpOf ins.op = some (k, nl, ng)) : EF s (-1) (s - 1) (exec md ins orc) := by
  unfold exec
  simp only [hb, hu, hc, h]
  ef

theorem ef_strAdd (md : Module) (ins : Instr) (orc : Oracle) (s : Int) (ty : NTy) (sl : Bool) (hb : binOpOf ins.op = none) (hu : unOpOf ins.op = none) (hc : convOf ins.op = none)
    (hn : nilCmpOf ins.op = none) (h : strAddOf ins.op = some (ty, sl)) : EF s (-1) (s - 1) (exec md ins orc) := by
  unfold exec
  simp only [hb, hu, hc, hn, h]
  ef

theorem ef_mkArray (md : Module) (ins : Instr) (orc : Oracle) (s : Int) (dflt : Obj) (hb : binOpOf ins.op = none) (hu : unOpOf ins.op = none) (hc : convOf ins.op = none)
    (hn : nilCmpOf ins.op = none) (hs : strAddOf ins.op = none) (ha : arrOpOf ins.op = none) (h : mkArrayElem ins.op = some dflt) :
    EF s (1 - (ins.w0 : Nat)) (s - (ins.w0 : Nat) + 1) (exec md ins orc) := by
  unfold exec
  simp only [hb, hu, hc, hn, hs, ha, h]
  ef

theorem ef_arrOp (md : Module) (ins : Instr) (orc : Oracle) (s : Int) (ty : NTy) (kind : Nat) (hb : binOpOf ins.op = none) (hu : unOpOf ins.op = none) (hc : convOf ins.op = none)
    (hn : nilCmpOf ins.op = none) (hs : strAddOf ins.op = none) (h : arrOpOf ins.op = some (ty, kind)) :
    EF s (if kind = 0 then 0 else -1) (if kind = 0 then s else s - 1) (exec md ins orc) := by
  unfold exec
  simp only [hb, hu, hc, hn, hs, h]
  refine EF.getSp_bind ?_
  split
  · rename_i hk; subst hk
    split
    · ef
    all_goals (first | (rename_i hx; exact absurd rfl hx) | (rename_i h0 _ _ _; exact absurd rfl h0) | (rename_i hx; simp at hx))
  · rename_i hk
    split
    · exact absurd rfl hk
    all_goals ef

/-! ### the whole table -/

/-- **The verifier's effect table against the handlers.**  Whenever `simpleEffect` assigns `(pops, pushes)` to an instruction, its
handler, started with `sp = s`, moves `sp` by `pushes − pops` (or raises, or stops) and writes nothing below `s − pops + 1` -/
theorem exec_ef (md : Module) (ins : Instr) (orc : Oracle) (p q : Nat) (h : simpleEffect ins = some (p, q)) (s : Int) :
    EF s ((q : Int) - (p : Int)) (s - (p : Int) + 1) (exec md ins orc) := by
  cases hb : binOpOf ins.op with
  | some tb =>
    obtain ⟨ty, bop⟩ := tb
    simp [simpleEffect, hb] at h; obtain ⟨rfl, rfl⟩ := h
    exact (EF.of_exec (exec_bin md ins orc ty bop hb) (ef_execBin ty bop s)).congr (by omega) (by omega)
  | none =>
  cases hu : unOpOf ins.op with
  | some tu =>
    obtain ⟨ty, uop⟩ := tu
    simp [simpleEffect, hb, hu] at h; obtain ⟨rfl, rfl⟩ := h
    exact (EF.of_exec (exec_un md ins orc ty uop hb hu) (ef_execUn ty uop s)).congr (by omega) (by omega)
  | none =>
  cases hc : convOf ins.op with
  | some tc =>
    obtain ⟨src, dst⟩ := tc
    simp [simpleEffect, hb, hu, hc] at h; obtain ⟨rfl, rfl⟩ := h
    exact (EF.of_exec (exec_conv md ins orc src dst hb hu hc) (ef_execConv src dst s)).congr (by omega) (by omega)
  | none =>
  cases hn : nilCmpOf ins.op with
  | some tn =>
    obtain ⟨k, nl, ng⟩ := tn
    simp [simpleEffect, hb, hu, hc, hn] at h; obtain ⟨rfl, rfl⟩ := h
    exact (ef_nilCmp md ins orc s k nl ng hb hu hc hn).congr (by omega) (by omega)
  | none =>
  cases hs : strAddOf ins.op with
  | some ts =>
    obtain ⟨ty, sl⟩ := ts
    simp [simpleEffect, hb, hu, hc, hn, hs] at h; obtain ⟨rfl, rfl⟩ := h
    exact (ef_strAdd md ins orc s ty sl hb hu hc hn hs).congr (by omega) (by omega)
  | none =>
  cases ha : arrOpOf ins.op with
  | some ta =>
    obtain ⟨ty, kind⟩ := ta
    have e := ef_arrOp md ins orc s ty kind hb hu hc hn hs ha
    cases kind with
    | zero =>
      simp [simpleEffect, hb, hu, hc, hn, hs, ha] at h; obtain ⟨rfl, rfl⟩ := h
      exact e.congr (by simp) (by simp)
    | succ k =>
      simp [simpleEffect, hb, hu, hc, hn, hs, ha] at h; obtain ⟨rfl, rfl⟩ := h
      exact e.congr (by simp) (by simp; omega)
  | none =>
  cases hm : mkArrayElem ins.op with
  | some dflt =>
    simp [simpleEffect, hb, hu, hc, hn, hs, ha, hm] at h; obtain ⟨rfl, rfl⟩ := h
    exact (ef_mkArray md ins orc s dflt hb hu hc hn hs ha hm).congr (by omega) (by omega)
  | none =>
  cases hsp : isSpecial ins.op with
  | false => exact exec_ef_plain md ins orc p q h s hb hu hc hn hs ha hm hsp
  | true =>
    rcases isSpecial_cases hsp with hop | hop
    · rw [simpleEffect_op hop] at h; cases h
      exact (ef_RECORD_UNPACK md ins orc s hop).congr (by dsimp only; omega) (by omega)
    · have e := ef_BUILD_IN md ins orc s hop
      simp only [simpleEffect, hop, binOpOf, unOpOf, convOf, nilCmpOf, strAddOf, arrOpOf, mkArrayElem, Option.isSome_none, Bool.false_eq_true, if_false] at h
      unfold buildInDelta buildInPops at e
      by_cases h1 : ins.w0 = 7 ∨ ins.w0 = 22
      · simp only [h1, if_true] at e
        have : (ins.w0 == 7) = true ∨ (ins.w0 == 22) = true := by rcases h1 with h1 | h1 <;> simp [h1]
        simp only [this, if_true, Option.some.injEq, Prod.mk.injEq] at h; obtain ⟨rfl, rfl⟩ := h
        exact e.congr (by omega) (by omega)
      · simp only [h1, if_false] at e
        have : ¬((ins.w0 == 7) = true ∨ (ins.w0 == 22) = true) := by simpa using h1
        simp only [this, if_false] at h
        by_cases h2 : ins.w0 = 12
        · simp only [h2, if_true] at e
          simp [h2] at h; obtain ⟨rfl, rfl⟩ := h
          exact e.congr (by omega) (by omega)
        · simp only [h2, if_false] at e
          have : ¬(ins.w0 == 12) = true := by simpa using h2
          simp only [this, if_false] at h
          simp only [ite_self, Option.some.injEq, Prod.mk.injEq] at h; obtain ⟨rfl, rfl⟩ := h
          exact e.congr (by omega) (by omega)

/-- **Soundness of the verifier's stack-effect table.** Whenever `simpleEffect` assigns `(pops, pushes)` to an
instruction, the M-VM handler of that instruction, started on ANY machine state with `sp = s` and run to
completion, leaves `fp`, `pp` and the stack size alone and ends with `sp = s + pushes - pops`, or with an exception
raised (the handler that is entered next resets `sp`), or with the machine stopped in `VM_ERROR`. -/
theorem simple_effect_sound (md : Module) (ins : Instr) (orc : Oracle) (p q : Nat) (h : simpleEffect ins = some (p, q)) (s : Int) :
    EffAt s ((q : Int) - (p : Int)) (exec md ins orc) :=
  (exec_ef md ins orc p q h s).1

/-- **Write footprint of the effect table.**  Whenever `simpleEffect` assigns `(pops, pushes)` to an instruction, the M-VM handler of
that instruction, started on ANY machine state with `sp = s` and run to completion (or to a raised exception), has left every stack
slot below `s − pops + 1` — everything under its lowest operand — exactly as it was. -/
theorem exec_foot_table (md : Module) (ins : Instr) (orc : Oracle) (p q : Nat) (h : simpleEffect ins = some (p, q)) (s : Int) :
    FootAt s (s - (p : Int) + 1) (exec md ins orc) :=
  (exec_ef md ins orc p q h s).2

end Never.Vm
