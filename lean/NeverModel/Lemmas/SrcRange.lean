/-
Ranges and slices of the reference evaluator (M-Src) against the index arithmetic of C12
(`Never.Idx`, Model/Index.lean): the evaluator's monadic helpers computed on a store whose range
object and bound cells are known.
-/
import NeverModel.Lemmas.SrcAlpha
import NeverModel.Props.C12
namespace Never.Src

/-- no C `int` overflow in `vm_get_slice_range a _ c d` (the additions `a ± c`, `a ± d`) -/
def NoOvf (a c d : Int) : Prop :=
  inInt32 (a + c) = true ∧ inInt32 (a + d) = true ∧ inInt32 (a - c) = true ∧ inInt32 (a - d) = true

theorem load_ok (l : Loc) (s : St) (v : Val) (h : s.mem[l]? = some v) : load l s = .ok v s := by
  simp only [load, h]

theorem getInt_ok (l : Loc) (s : St) (a : Int32) (h : s.mem[l]? = some (.int a)) : getInt l s = .ok a.toInt s := by
  simp only [getInt, bind_eq, M.bind, load_ok l s _ h]; rfl

/-- where no addition overflows, `sliceRangeM` is `vm_get_slice_range` of C12 -/
theorem sliceRangeM_eq (a b c d : Int) (h : NoOvf a c d) (s : St) :
    sliceRangeM a b c d s =
      match Idx.sliceRange a b c d with
      | some r => .ok r s
      | none => throwE .index_out_of_bounds s := by
  obtain ⟨h1, h2, h3, h4⟩ := h
  unfold sliceRangeM
  by_cases hneg : c < 0 ∨ d < 0
  · simp only [hneg, if_true, Idx.sliceRange_neg a b c d hneg]
  · simp only [hneg, if_false, h1, h2, h3, h4, Bool.and_self, Bool.not_true, Bool.false_eq_true]
    cases Idx.sliceRange a b c d <;> rfl

/-- one position of a range: inside → `rangePos`, outside (or negative) → `index_out_of_bounds` -/
theorem sliceRangeM_single (a b i : Int) (h : inInt32 (a + i) = true ∧ inInt32 (a - i) = true) (s : St) :
    sliceRangeM a b i i s =
      if 0 ≤ i ∧ i < (Idx.rangeLen a b : Int) then .ok (Idx.rangePos a b i, Idx.rangePos a b i) s
      else throwE .index_out_of_bounds s := by
  rw [sliceRangeM_eq a b i i ⟨h.1, h.1, h.2, h.2⟩]
  by_cases hi : 0 ≤ i
  · by_cases hlt : i < (Idx.rangeLen a b : Int)
    · rw [(Idx.sliceRange_single a b i hi).1 hlt]
      simp only [hi, hlt, and_self, if_true]
    · rw [(Idx.sliceRange_single a b i hi).2 (by omega)]
      simp only [hlt, and_false, if_false]
  · rw [Idx.sliceRange_neg a b i i (Or.inl (by omega))]
    simp only [hi, false_and, if_false]

/-- the bounds of a 1-dimensional range object, read from its two cells -/
theorem rngBounds_ok (s : St) (o lf lt : Loc) (a b : Int32)
    (ho : s.mem[o]? = some (.rngObj #[lf, lt])) (hf : s.mem[lf]? = some (.int a)) (ht : s.mem[lt]? = some (.int b)) :
    rngBounds o s = .ok [(a.toInt, b.toInt)] s := by
  simp only [rngBounds, bind_eq, M.bind, load_ok o s _ ho, getInts, getInt_ok lf s a hf, getInt_ok lt s b ht]
  rfl

theorem rngLoopInit_ok (s : St) (o lf lt : Loc) (a b : Int32)
    (ho : s.mem[o]? = some (.rngObj #[lf, lt])) (hf : s.mem[lf]? = some (.int a)) (ht : s.mem[lt]? = some (.int b)) :
    rngLoopInit o s = .ok (a.toInt, decide (a.toInt < b.toInt), lt) s := by
  simp only [rngLoopInit, bind_eq, M.bind, load_ok o s _ ho]
  simp [getInt_ok lf s a hf, getInt_ok lt s b ht, M.bind, pure, M.pure]

/-! ### the counter discipline of a loop over a range -/

/-- the values the counter of `for (x in [a..b])` takes while nothing assigns `to`: it starts at `cur`,
moves towards `t`, stops after `t` (`fuel` bounds the number of iterations) -/
def loopVals (asc : Bool) (t : Int) : Nat → Int → List Int
  | 0, _ => []
  | fuel + 1, cur => if inRange asc cur t then cur :: loopVals asc t fuel (stepRange asc cur) else []

/-- the counter moves from `cur` in steps of one towards `t`, which it reaches after `n - 1` steps -/
theorem loopVals_eq (asc : Bool) (t : Int) : ∀ (n fuel : Nat) (cur : Int),
    (if asc then cur + n = t + 1 else cur + 1 = t + n) → n ≤ fuel →
    loopVals asc t fuel cur = (List.range n).map (fun (k : Nat) => if asc then cur + (k : Int) else cur - (k : Int))
  | 0, fuel, cur, h, _ => by
    cases fuel with
    | zero => rfl
    | succ f =>
      have : inRange asc cur t = false := by
        cases asc <;> simp only [inRange, Bool.false_eq_true, if_false, if_true, decide_eq_false_iff_not] at h ⊢ <;> omega
      simp [loopVals, this]
  | n + 1, fuel, cur, h, hf => by
    cases fuel with
    | zero => omega
    | succ f =>
      have hin : inRange asc cur t = true := by
        cases asc <;> simp only [inRange, Bool.false_eq_true, if_false, if_true, decide_eq_true_eq] at h ⊢ <;> omega
      have ih := loopVals_eq asc t n f (stepRange asc cur)
        (by cases asc <;> simp only [stepRange, Bool.false_eq_true, if_false, if_true] at h ⊢ <;> omega) (by omega)
      rw [List.range_succ_eq_map]
      simp only [loopVals, hin, if_true, ih, List.map_cons, List.map_map]
      congr 1
      · cases asc <;> simp
      · apply List.map_congr_left
        intro k _
        cases asc <;> simp only [stepRange, Function.comp, Bool.false_eq_true, if_false, if_true] <;> omega

/-- **The loop counter visits the positions of the range, in order.**  A loop over `[a..b]` whose `to` cell is
not assigned takes the counter through `rangePos a b 0, …, rangePos a b (rangeLen a b − 1)` (C12's denotation of
the range) and stops; any fuel above the length suffices -/
theorem loopVals_positions (a b : Int) (fuel : Nat) (hf : Idx.rangeLen a b < fuel) :
    loopVals (decide (a < b)) b fuel a = (List.range (Idx.rangeLen a b)).map (fun (k : Nat) => Idx.rangePos a b k) := by
  rw [loopVals_eq (decide (a < b)) b (Idx.rangeLen a b) fuel a (by simp only [Idx.rangeLen, decide_eq_true_eq]; split <;> omega) (by omega)]
  simp only [Idx.rangePos, decide_eq_true_eq]

/-! ### the comprehension `[ x | x in r ]` over a range: what it does to the store -/

/-- what one round of the comprehension `[ x | x in r ]` does to the store: a fresh int cell holding `v`, appended to
the array object `o` under construction -/
def genStep (o : Loc) (s : St) (v : Int) : St :=
  match s.mem[o]? with
  | some (.arrObj _ elems) =>
    { s with mem := (s.mem.push (.int (Int32.ofInt v))).setIfInBounds o (.arrObj [elems.size + 1] (elems.push s.mem.size)) }
  | _ => s

theorem lt_size_of_getElem? {α} (a : Array α) (i : Nat) (v : α) (h : a[i]? = some v) : i < a.size :=
  (Array.getElem?_eq_some_iff.mp h).1

section
variable {o : Loc} {s : St} {d : List Nat} {elems : Array Loc} (ho : s.mem[o]? = some (.arrObj d elems)) (v : Int)
include ho

theorem genStep_eq :
    genStep o s v = { s with mem := (s.mem.push (.int (Int32.ofInt v))).setIfInBounds o (.arrObj [elems.size + 1] (elems.push s.mem.size)) } := by
  simp only [genStep, ho]

theorem genStep_size : (genStep o s v).mem.size = s.mem.size + 1 := by
  rw [genStep_eq ho]; simp

theorem genStep_obj : (genStep o s v).mem[o]? = some (.arrObj [elems.size + 1] (elems.push s.mem.size)) := by
  have : o < s.mem.size + 1 := Nat.lt_succ_of_lt (lt_size_of_getElem? _ _ _ ho)
  rw [genStep_eq ho]
  simp [this]

theorem genStep_new : (genStep o s v).mem[s.mem.size]? = some (.int (Int32.ofInt v)) := by
  have : ¬ o = s.mem.size := Nat.ne_of_lt (lt_size_of_getElem? _ _ _ ho)
  rw [genStep_eq ho]
  simp [this]

theorem genStep_frame (l : Loc) (hl : l < s.mem.size) (hne : l ≠ o) : (genStep o s v).mem[l]? = s.mem[l]? := by
  have h2 : ¬ o = l := fun h => hne h.symm
  have h3 : ¬ l = s.mem.size := Nat.ne_of_lt hl
  rw [genStep_eq ho]
  simp [h2, h3, Array.getElem?_push]

end

theorem evalGenRng_succ (f : Nat) (ctx : Ctx) (env : Env) (x : Name) (ao : Option Loc) (cur : Int) (asc : Bool) (lt : Loc)
    (qs : List Qual) (body : Expr) (ty : Ty) (o : Loc) :
    evalGenRng (f + 1) ctx env x ao cur asc lt qs body ty o = (do
      let t ← getInt lt
      if inRange asc cur t then
        let l ← rngElem ao cur
        evalQuals f ctx ((x, l) :: env) qs body ty o
        if inInt32 (stepRange asc cur) then evalGenRng f ctx env x ao (stepRange asc cur) asc lt qs body ty o
        else stopM (.crash "range counter overflows int")
      else pure ()) := by
  rw [evalGenRng]

theorem genRng_var_run (ctx : Ctx) (env : Env) (x : Name) (asc : Bool) (lt o : Loc) (t : Int32) (hne : lt ≠ o) :
    ∀ (vals : List Int) (f : Nat) (cur : Int) (s : St) (d : List Nat) (elems : Array Loc),
      vals = loopVals asc t.toInt (vals.length + 1) cur →
      (∀ v ∈ vals, inInt32 (stepRange asc v) = true) →
      s.mem[lt]? = some (.int t) → s.mem[o]? = some (.arrObj d elems) →
      vals.length + 3 ≤ f →
      evalGenRng f ctx env x none cur asc lt [] (.var x) .int o s = .ok () (vals.foldl (genStep o) s)
  | [], f, cur, s, d, elems, hv, _, ht, ho, hf => by
    obtain ⟨f', rfl⟩ : ∃ f', f = f' + 1 := ⟨f - 1, by omega⟩
    have hnr : inRange asc cur t.toInt = false := by
      simp only [List.length_nil, loopVals] at hv
      cases h : inRange asc cur t.toInt
      · rfl
      · rw [h] at hv; simp at hv
    rw [evalGenRng_succ]
    simp only [bind_eq, M.bind, getInt_ok lt s t ht, hnr, List.foldl_nil]
    rfl
  | v :: rest, f, cur, s, d, elems, hv, hov, ht, ho, hf => by
    obtain ⟨f', rfl⟩ : ∃ f', f = f' + 3 := ⟨f - 3, by simp at hf; omega⟩
    have hir : inRange asc cur t.toInt = true := by
      cases h : inRange asc cur t.toInt
      · simp only [List.length_cons, loopVals, h] at hv; simp at hv
      · rfl
    have hv' : v = cur ∧ rest = loopVals asc t.toInt (rest.length + 1) (stepRange asc cur) := by
      simp only [List.length_cons, loopVals, hir, if_true] at hv
      injection hv with h1 h2
      exact ⟨h1, h2⟩
    obtain ⟨rfl, hrest⟩ := hv'
    have hlt := lt_size_of_getElem? _ _ _ ht
    have hos := lt_size_of_getElem? _ _ _ ho
    have hstep : inInt32 (stepRange asc v) = true := hov v (by simp)
    have ht2 : (genStep o s v).mem[lt]? = some (.int t) := (genStep_frame ho v lt hlt hne).trans ht
    have ih := genRng_var_run ctx env x asc lt o t hne rest (f' + 2) (stepRange asc v) (genStep o s v) [elems.size + 1]
      (elems.push s.mem.size) hrest (fun w hw => hov w (by simp [hw])) ht2 (genStep_obj ho v) (by simp at hf ⊢; omega)
    simp only [List.foldl_cons]
    have hre : rngElem none v s = .ok s.mem.size { s with mem := s.mem.push (.int (Int32.ofInt v)) } := rfl
    have hq : evalQuals (f' + 2) ctx ((x, s.mem.size) :: env) [] (.var x) .int o
        { s with mem := s.mem.push (.int (Int32.ofInt v)) } = .ok () (genStep o s v) := by
      have hpo : (s.mem.push (Val.int (Int32.ofInt v)))[o]? = some (.arrObj d elems) := by
        simp only [Array.getElem?_push]
        have : ¬ o = s.mem.size := Nat.ne_of_lt hos
        simp only [this, if_false]; exact ho
      simp only [bind_eq, M.bind, evalQuals, evalE, lookup, if_true, pure, M.pure, convCell, load,
        Array.getElem?_push, if_true, convTo, hpo, store, genStep_eq ho]
    rw [evalGenRng_succ]
    simp only [bind_eq, M.bind, getInt_ok lt s t ht, hir, if_true, hre, hq, hstep]
    exact ih

/-- the store after the rounds of `genStep`: the new cells hold the values in order, the array object lists them after
its old elements, nothing else changed -/
theorem genFold_spec (o : Loc) : ∀ (vals : List Int) (s : St) (d : List Nat) (elems : Array Loc),
    s.mem[o]? = some (.arrObj d elems) →
    (vals.foldl (genStep o) s).mem.size = s.mem.size + vals.length ∧
    (vals.foldl (genStep o) s).mem[o]? = some (.arrObj (if vals = [] then d else [elems.size + vals.length])
        (elems ++ ((List.range vals.length).map (fun k => s.mem.size + k)).toArray)) ∧
    (∀ k, (h : k < vals.length) → (vals.foldl (genStep o) s).mem[s.mem.size + k]? = some (.int (Int32.ofInt vals[k]))) ∧
    (∀ l, l < s.mem.size → l ≠ o → (vals.foldl (genStep o) s).mem[l]? = s.mem[l]?) ∧
    (vals.foldl (genStep o) s).out = s.out
  | [], s, d, elems, ho => by
    refine ⟨by simp, ?_, ?_, ?_, rfl⟩
    · simp [ho]
    · intro k h; simp at h
    · intro l _ _; rfl
  | v :: rest, s, d, elems, ho => by
    have hos : o < s.mem.size := lt_size_of_getElem? _ _ _ ho
    have hsz := genStep_size ho v
    obtain ⟨i1, i2, i3, i4, i5⟩ := genFold_spec o rest (genStep o s v) [elems.size + 1] (elems.push s.mem.size) (genStep_obj ho v)
    simp only [List.foldl_cons, List.length_cons]
    refine ⟨by rw [i1, hsz]; omega, ?_, ?_, ?_, ?_⟩
    · rw [i2, hsz]
      simp only [reduceCtorEq, if_false, Array.size_push]
      congr 2
      · cases rest <;> simp <;> omega
      · rw [List.range_succ_eq_map]
        simp only [List.map_cons, List.map_map, Nat.add_zero]
        apply Array.ext'
        simp only [Array.toList_append, Array.toList_push, List.append_assoc, List.singleton_append]
        congr 2
        apply List.map_congr_left
        intro k _
        simp only [Function.comp]
        omega
    · intro k hk
      cases k with
      | zero =>
        have := i4 s.mem.size (by rw [hsz]; omega) (Nat.ne_of_gt hos)
        simp only [Nat.add_zero, List.getElem_cons_zero]
        rw [this, genStep_new ho v]
      | succ k =>
        have := i3 k (by simpa using hk)
        rw [hsz] at this
        simp only [List.getElem_cons_succ]
        have e : s.mem.size + (k + 1) = s.mem.size + 1 + k := by omega
        rw [e]
        exact this
    · intro l hl hne
      rw [i4 l (by rw [hsz]; omega) hne, genStep_frame ho v l hl hne]
    · rw [i5, genStep_eq ho]

/-! ### array arithmetic: the shape guards of C12 on extent lists, the cells of an element-wise result -/

theorem canAdd_extDv (d1 d2 : List Nat) : Idx.canAdd (extDv d1) (extDv d2) = true ↔ d1 = d2 := by
  rw [(Idx.shape_conformance (extDv d1) (extDv d2)).1]
  simp only [extDv, List.length_map, List.getElem_map]
  constructor
  · rintro ⟨hl, h⟩
    apply List.ext_getElem hl
    intro k h1 h2
    exact h k h1 h2
  · rintro rfl
    exact ⟨rfl, fun _ _ _ => rfl⟩

theorem canMult_extDv (d1 d2 : List Nat) :
    Idx.canMult (extDv d1) (extDv d2) = true ↔ ∃ r1 c1 c2, d1 = [r1, c1] ∧ d2 = [c1, c2] := by
  rw [(Idx.shape_conformance (extDv d1) (extDv d2)).2]
  constructor
  · rintro ⟨rows1, m1, cols1, m2, rows2, m3, cols2, m4, h1, h2, rfl⟩
    refine ⟨rows1, cols1, cols2, ?_, ?_⟩
    · match d1, h1 with
      | [a, b], h => simp [extDv] at h; obtain ⟨⟨rfl, _⟩, rfl, _⟩ := h; rfl
    · match d2, h2 with
      | [a, b], h => simp [extDv] at h; obtain ⟨⟨rfl, _⟩, rfl, _⟩ := h; rfl
  · rintro ⟨r1, c1, c2, rfl, rfl⟩
    exact ⟨r1, 1, c1, 1, c1, 1, c2, 1, rfl, rfl, rfl⟩

/-- element results that are all values become consecutive fresh cells holding them, in order -/
theorem allocRes_vals : ∀ (vs : List Val) (s : St),
    allocRes (vs.map OpRes.val) s =
      .ok ((List.range vs.length).map (fun k => s.mem.size + k)) { s with mem := s.mem ++ vs.toArray }
  | [], s => by simp [allocRes, pure, M.pure]
  | v :: vs, s => by
    have ih := allocRes_vals vs { s with mem := s.mem.push v }
    simp only [List.map_cons, allocRes, liftOp, bind_eq, M.bind, pure, M.pure, alloc, ih, List.length_cons]
    congr 1
    · rw [List.range_succ_eq_map]
      simp only [List.map_cons, List.map_map, Nat.add_zero, Array.size_push]
      congr 1
      apply List.map_congr_left
      intro k _
      show s.mem.size + 1 + k = s.mem.size + (k + 1)
      omega
    · congr 1
      apply Array.ext'
      simp

end Never.Src
