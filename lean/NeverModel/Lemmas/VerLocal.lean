import NeverModel.Lemmas.VerRun
set_option linter.unusedSimpArgs false
set_option linter.unusedVariables false
/-! register effects of one `step` on the frame opcodes, and the stack slot the frame-relative opcodes address -/
namespace Never.Ver
open Never Never.Vm

/-- a step whose handler cannot raise ends in the handler's final state -/
theorem step_noraise (md : Module) (orc : Oracle) (vm vm' : Vm) (i : Instr) (hi : md.code[vm.ip]? = some i)
    (hstep : (step md orc).run vm = .ok ((), vm'))
    (hnr : ∀ s2, (exec md i orc).run { vm with ip := vm.ip + 1 } = .ok ((), s2) → s2.running ≠ 2) :
    (exec md i orc).run { vm with ip := vm.ip + 1 } = .ok ((), vm') := by
  obtain ⟨s2, hx, hcase⟩ := step_exec md orc vm vm' i hi hstep
  rcases hcase with ⟨_, rfl⟩ | ⟨h2, _⟩
  · exact hx
  · exact absurd h2 (hnr s2 hx)

/-- one `step` on `MARK` from a running machine: the five frame words are pushed (`sp' = fp' = sp + 5`), `pp` is left alone, control
is behind the MARK -/
theorem step_MARK_regs (md : Module) (orc : Oracle) (vm vm' : Vm) (i : Instr) (hi : md.code[vm.ip]? = some i) (hop : i.op = .MARK)
    (hrun : vm.running = 1) (hstep : (step md orc).run vm = .ok ((), vm')) :
    markP { vm with ip := vm.ip + 1 } i.w0 = .ok vm' ∧
    vm'.sp = vm.sp + 5 ∧ vm'.fp = vm.sp + 5 ∧ vm'.pp = vm.pp ∧ vm'.gp = vm.gp ∧ vm'.ip = vm.ip + 1 ∧ vm'.running = 1 ∧
    vm'.stackSize = vm.stackSize := by
  have hx := step_noraise md orc vm vm' i hi hstep (fun s2 h2 => by
    obtain ⟨_, rfl⟩ := markP_ok.mp (exec_MARK md i orc hop _ _ h2)
    show vm.running ≠ 2
    omega)
  have hm := exec_MARK md i orc hop _ _ hx
  obtain ⟨_, e⟩ := markP_ok.mp hm
  refine ⟨hm, ?_⟩
  rw [e]
  exact ⟨rfl, rfl, rfl, rfl, rfl, hrun, rfl⟩

/-- one `step` on `SLIDE q m`: `sp` drops by `q`, nothing else moves -/
theorem step_SLIDE_regs (md : Module) (orc : Oracle) (vm vm' : Vm) (i : Instr) (hi : md.code[vm.ip]? = some i) (hop : i.op = .SLIDE)
    (hrun : vm.running = 1) (hstep : (step md orc).run vm = .ok ((), vm')) :
    vm'.sp = vm.sp - (i.w0 : Int) ∧ vm'.fp = vm.fp ∧ vm'.pp = vm.pp ∧ vm'.gp = vm.gp ∧ vm'.ip = vm.ip + 1 ∧ vm'.running = 1 ∧
    vm'.stackSize = vm.stackSize := by
  have key : ∀ s2, (exec md i orc).run { vm with ip := vm.ip + 1 } = .ok ((), s2) →
      s2.sp = vm.sp - (i.w0 : Int) ∧ s2.fp = vm.fp ∧ s2.pp = vm.pp ∧ s2.gp = vm.gp ∧ s2.ip = vm.ip + 1 ∧ s2.running = 1 ∧
      s2.stackSize = vm.stackSize := by
    intro s2 h2
    rcases exec_SLIDE md i orc hop _ _ h2 with ⟨hq, hg0⟩ | ⟨hq, v1, hsl, hgc⟩
    · obtain ⟨b1, b2, b3, b4, b5, b6, b7, _⟩ := gcRunPure_regs hg0
      simp only at b1 b2 b3 b4 b5 b6 b7
      refine ⟨?_, b2, b3, b4, b5, by rw [b6]; exact hrun, b7⟩
      rw [b1, hq]; simp
    · obtain ⟨a1, a2, a3, a4, a5, a6, a7⟩ := slideP_regs hsl
      obtain ⟨b1, b2, b3, b4, b5, b6, b7, _⟩ := gcRunPure_regs hgc
      simp only [hq, if_false] at a1 a2 a3 a4 a5 a6 a7
      exact ⟨by omega, by omega, by omega, by omega, by omega, by omega, by omega⟩
  have hx := step_noraise md orc vm vm' i hi hstep (fun s2 h2 => by have := (key s2 h2).2.2.2.2.2.1; omega)
  exact key vm' hx

/-- one `step` on `CLEAR_STACK n` (any `sp`, any `running` left by the dispatch): `fp = pp`, `sp = pp + n`, running behind it -/
theorem step_CLEAR_STACK_eq (md : Module) (orc : Oracle) (vm vm' : Vm) (i : Instr) (hi : md.code[vm.ip]? = some i)
    (hop : i.op = .CLEAR_STACK) (hstep : (step md orc).run vm = .ok ((), vm')) :
    vm' = clearStackP { vm with ip := vm.ip + 1 } i.w0 :=
  exec_CLEAR_STACK md i orc hop _ _ (step_noraise md orc vm vm' i hi hstep (fun s2 h2 => by
    rw [exec_CLEAR_STACK md i orc hop _ _ h2]; simp [clearStackP]))

/-! ### the slot a frame-relative opcode addresses -/

theorem rdSlot_val {vm vm' : Vm} {i : Int} {s : Slot} (h : (rdSlot i).run vm = .ok (s, vm')) :
    ¬ (i < 0 ∨ i ≥ vm.stackSize) ∧ vm' = vm := by
  have hro := readOnly_rdSlot _ _ _ _ h
  unfold rdSlot at h
  obtain ⟨v0, v0', h3, h4⟩ := (run_bind_ok _ _ _ _ _).mp h
  obtain ⟨e0, e0'⟩ := get_run _ _ _ h3
  rw [e0, e0'] at h4
  split at h4
  · exact absurd h4 (crash_run _ _ _ _)
  · rename_i hb; exact ⟨hb, hro⟩

/-- **the handler does read the slot `sp − d`**: for a frame-relative opcode with distance `frameDist i = some d`, a handler that
completes (or raises) on a machine with stack pointer `sp` has read stack slot `sp − d`, which therefore lies inside the stack array
(an index outside it is a crash of the model: an out-of-bounds access of the C array) -/
theorem exec_reads_frame_slot (md : Module) (i : Instr) (orc : Oracle) (d : Int) (hd : frameDist i = some d) (vm vm' : Vm)
    (h : (exec md i orc).run vm = .ok ((), vm')) : 0 ≤ vm.sp - d ∧ vm.sp - d < vm.stackSize := by
  unfold frameDist at hd
  split at hd <;> rename_i hop
  -- the nine opcodes whose first action is `rdAddr (sp - d)`
  all_goals first
    | (cases hd
       exec_unfold hop at h
       obtain ⟨sp, s0, h0, hA⟩ := (run_bind_ok _ _ _ _ _).mp h
       obtain ⟨e0, e0'⟩ := getSp_run _ _ _ h0
       rw [e0, e0'] at hA
       obtain ⟨a, s1, h1, hB⟩ := (run_bind_ok _ _ _ _ _).mp hA
       have := (rdAddr_val h1).1
       omega)
    | skip
  · -- DUP: `sp++`, stack check, then the read of `sp + 1 - w0`
    cases hd
    exec_unfold hop at h
    obtain ⟨sp, s0, h0, hA⟩ := (run_bind_ok _ _ _ _ _).mp h
    obtain ⟨e0, e0'⟩ := getSp_run _ _ _ h0
    rw [e0, e0'] at hA
    obtain ⟨u1, s1, h1, hB⟩ := (run_bind_ok _ _ _ _ _).mp hA
    obtain ⟨_, _, _, t4, _⟩ := keeps_setSp_run _ _ _ _ h1
    obtain ⟨u2, s2, h2, hC⟩ := (run_bind_ok _ _ _ _ _).mp hB
    obtain ⟨_, _, _, c4⟩ := rel_checkStack (R := SameRegs) _ _ _ h2
    obtain ⟨sl, s3, h3, hD⟩ := (run_bind_ok _ _ _ _ _).mp hC
    have := (rdSlot_val h3).1
    omega
  · -- REWRITE: the function object on top first, then the slot `sp - w0`
    cases hd
    exec_unfold hop at h
    obtain ⟨sp, s0, h0, hA⟩ := (run_bind_ok _ _ _ _ _).mp h
    obtain ⟨e0, e0'⟩ := getSp_run _ _ _ h0
    rw [e0, e0'] at hA
    obtain ⟨a, s1, h1, hB⟩ := (run_bind_ok _ _ _ _ _).mp hA
    obtain ⟨_, _, e1⟩ := rdAddr_val h1
    rw [e1] at hB
    obtain ⟨pr, s2, h2, hC⟩ := (run_bind_ok _ _ _ _ _).mp hB
    obtain ⟨_, _, _, c4⟩ := rel_getFunc (R := SameRegs) _ _ _ _ h2
    obtain ⟨gp, fip⟩ := pr
    simp only at hC
    obtain ⟨a2, s3, h3, hD⟩ := (run_bind_ok _ _ _ _ _).mp hC
    have := (rdAddr_val h3).1
    omega
  · cases hd

section
variable {md : Module} {hm : HMap}

/-- in a function body, the slot a frame-relative opcode addresses lies in the running function's own frame: above `pp` (the
caller's data and the five frame words end at `pp`) and at or below the top of stack -/
theorem local_in_frame (hf : flowOk md hm = true) {a : Nat} {i : Instr} {st : AbsSt} {d : Int}
    (hi : md.code[a]? = some i) (hs : hm[a]? = some (some st)) (hd : frameDist i = some d) (hfn : inFunction md a = true)
    (sp pp : Int) (hsp : sp = pp + (fnParamsAt md a : Int) + (st.h : Int)) : pp < sp - d ∧ sp - d ≤ sp := by
  have hr := frameOkAt_reach hi hs hd (frame_at hf hi)
  unfold reachB at hr
  unfold inFunction at hfn
  have htop : topAt (funcStarts md) a = false := by simpa using hfn
  simp only [htop, Bool.false_or, Bool.and_eq_true, decide_eq_true_eq] at hr
  unfold fnParamsAt at hsp
  omega

end
end Never.Ver
