import NeverModel.Lemmas.Collect
import NeverModel.Lemmas.Sweep
set_option linter.unusedSimpArgs false
set_option linter.unusedVariables false
/-! the allocator part of the heap invariant of C09 — the free chain, the allocated list, the nil cell — without the well-kindedness of
references: it is preserved by `alloc`, by every store into an allocated cell and by a whole collection, WHATEVER the objects hold
(the mark phase only sets marks, the sweep looks at marks and at `obj ≠ none`; neither follows a reference to decide where a cell goes) -/
namespace Never
open Mem

/-- the bookkeeping invariant, with the free chain's cell list `fl` as explicit witness -/
structure FreeL (g : Gc) (fl : List Nat) : Prop where
  nil_none : objAt g.mem 0 = none
  chain : Chain g.mem g.free fl
  fl_nodup : fl.Nodup
  fl_free : ∀ x ∈ fl, objAt g.mem x = none
  cur_nodup : g.cur.Nodup
  cur_alloc : ∀ x, x ∈ g.cur ↔ (objAt g.mem x).isSome = true
  oth_empty : g.oth = []
  cover : ∀ x, 0 < x → x < g.mem.size → x ∈ fl ∨ x ∈ g.cur

/-- **the heap's bookkeeping is intact**: cell 0 is nil; the free chain from `free` is a duplicate-free list of in-range cells without
objects; the current allocated list is duplicate-free and holds exactly the cells with objects; the other list is empty; every cell
`≥ 1` is on one of the two -/
def FreeInv (g : Gc) : Prop := ∃ fl, FreeL g fl

theorem Chain.lt {m : Mem} : ∀ {fl : List Nat} {h : Nat}, Chain m h fl → ∀ x ∈ fl, x < m.size ∧ x ≠ 0 := by
  intro fl
  induction fl with
  | nil => intro h _ x hx; cases hx
  | cons y ys ih =>
    intro h c x hx
    obtain ⟨_, h2, h3, h4⟩ := c
    rcases List.mem_cons.mp hx with rfl | hx'
    · exact ⟨h3, h2⟩
    · exact ih h4 x hx'

theorem isSome_ne_none {oo : Option Obj} (hs : oo.isSome = true) (hn : oo = none) : False := by
  rw [hn] at hs; cases hs

theorem FreeL.not_both {g : Gc} {fl : List Nat} (il : FreeL g fl) {x : Nat} (hc : x ∈ g.cur) (hf : x ∈ fl) : False :=
  isSome_ne_none ((il.cur_alloc x).mp hc) (il.fl_free x hf)

theorem FreeL.cur_ne_zero {g : Gc} {fl : List Nat} (il : FreeL g fl) {x : Nat} (hc : x ∈ g.cur) : x ≠ 0 :=
  fun h0 => isSome_ne_none ((il.cur_alloc x).mp hc) (h0 ▸ il.nil_none)

/-- each cell `≥ 1` is in exactly one place: on the free chain (no object) or on the allocated list (an object), never both -/
theorem FreeL.exactly_one {g : Gc} {fl : List Nat} (il : FreeL g fl) (x : Nat) (h0 : 0 < x) (hx : x < g.mem.size) :
    (x ∈ fl ∧ x ∉ g.cur ∧ objAt g.mem x = none) ∨ (x ∉ fl ∧ x ∈ g.cur ∧ (objAt g.mem x).isSome = true) := by
  rcases il.cover x h0 hx with h | h
  · exact Or.inl ⟨h, fun hc => il.not_both hc h, il.fl_free x h⟩
  · exact Or.inr ⟨il.not_both h, h, (il.cur_alloc x).mp h⟩

/-- none is lost: free cells + allocated cells + the nil cell = all cells -/
theorem FreeL.count {g : Gc} {fl : List Nat} (il : FreeL g fl) (hsz : 1 ≤ g.mem.size) : fl.length + g.cur.length + 1 = g.mem.size := by
  -- the cells 1 … size-1 are a permutation of fl ++ cur
  have hnd : (fl ++ g.cur).Nodup :=
    List.nodup_append.mpr ⟨il.fl_nodup, il.cur_nodup, fun a ha b hb hab => il.not_both (hab ▸ hb) ha⟩
  have hmem : ∀ x, x ∈ fl ++ g.cur ↔ x ∈ List.range' 1 (g.mem.size - 1) := by
    intro x
    rw [List.mem_range'_1, List.mem_append]
    constructor
    · rintro (h | h)
      · have := il.chain.lt x h
        omega
      · have h0 := il.cur_ne_zero h
        cases ho : objAt g.mem x with
        | none => exact (isSome_ne_none ((il.cur_alloc x).mp h) ho).elim
        | some o => have := objAt_some_lt ho; omega
    · exact fun h => il.cover x (by omega) (by omega)
  have := ((List.perm_ext_iff_of_nodup hnd List.nodup_range').mpr hmem).length_eq
  simp at this
  omega

/-- the allocator hands out only free cells, inside the heap -/
theorem FreeInv.alloc_fresh {g : Gc} (h : FreeInv g) : g.free = 0 ∨ (g.free < g.mem.size ∧ objAt g.mem g.free = none) := by
  obtain ⟨fl, il⟩ := h
  cases fl with
  | nil => exact Or.inl il.chain
  | cons x xs =>
    obtain ⟨hx, _, hlt, _⟩ := il.chain
    right
    rw [hx]
    exact ⟨hlt, il.fl_free x List.mem_cons_self⟩

/-! ### gc_new -/

theorem nextAt_new (n x : Nat) (h : x < n) :
    nextAt (Gc.new n).mem x = if x = 0 ∨ x + 1 = n then 0 else x + 1 := by
  simp [Gc.new, nextAt, h]
theorem objAt_new (n x : Nat) : objAt (Gc.new n).mem x = none := by
  simp only [Gc.new, objAt]
  by_cases h : x < n <;> simp [h]
theorem marked_new (n x : Nat) : marked (Gc.new n).mem x = false := by
  simp only [Gc.new, marked]
  by_cases h : x < n <;> simp [h]
theorem size_new (n : Nat) : (Gc.new n).mem.size = n := by simp [Gc.new]

theorem chain_new (n : Nat) : ∀ (k s : Nat), 0 < s → s + k = n →
    Chain (Gc.new n).mem (if k = 0 then 0 else s) (List.range' s k) := by
  intro k
  induction k with
  | zero => intro s _ _; simp [Chain]
  | succ k ih =>
    intro s hs hn
    simp only [List.range'_succ, Chain, Nat.succ_ne_zero, if_false, true_and]
    refine ⟨by omega, by rw [size_new]; omega, ?_⟩
    rw [nextAt_new n s (by omega)]
    have := ih (s + 1) (by omega) (by omega)
    by_cases hk : k = 0
    · subst hk; simp at this ⊢; simp [Chain]; omega
    · have h1 : ¬ (s = 0 ∨ s + 1 = n) := by omega
      simpa [hk, h1] using this

theorem freeL_new (n : Nat) (h : 1 ≤ n) : FreeL (Gc.new n) (List.range' 1 (n - 1)) := by
  have hc := chain_new n (n - 1) 1 (by omega) (by omega)
  have hfree : (Gc.new n).free = (if n - 1 = 0 then 0 else 1) := by
    simp only [Gc.new]
    by_cases hn : 1 < n
    · have : ¬ (n - 1 = 0) := by omega
      simp [hn, this]
    · have : n - 1 = 0 := by omega
      simp [hn, this]
  refine ⟨objAt_new n 0, by rw [hfree]; exact hc, List.nodup_range', fun x _ => objAt_new n x, ?_, ?_, ?_, ?_⟩
  · simp [Gc.cur, Gc.new]
  · intro x; simp [Gc.cur, Gc.new, objAt_new n x]; simpa [Gc.new] using objAt_new n x
  · simp [Gc.oth, Gc.new]
  · intro x h0 hx; left; rw [size_new] at hx; rw [List.mem_range'_1]; omega

theorem freeInv_new (n : Nat) (h : 1 ≤ n) : FreeInv (Gc.new n) := ⟨_, freeL_new n h⟩

/-! ### gc_alloc_any -/

theorem alloc_fields {g g' : Gc} {o : Obj} {loc : Nat} (h : g.alloc o = some (g', loc)) :
    loc = g.free ∧ g.free ≠ 0 ∧ g'.mem = g.mem.setObj g.free (some o) ∧ g'.free = g.mem.nextAt g.free ∧
      g'.cur = g.cur ++ [g.free] ∧ g'.oth = g.oth := by
  unfold Gc.alloc at h
  simp only at h
  split at h
  · cases h
  · rename_i hfree
    cases h
    cases hw : g.w <;> simp [Gc.cur, Gc.oth, hw, hfree]

/-- result of a successful `gc_alloc_any`: the head of the free chain moves to the end of the allocated list -/
theorem freeL_alloc {g g' : Gc} {fl : List Nat} {o : Obj} {loc : Nat} (inv : FreeL g fl) (h : g.alloc o = some (g', loc)) :
    ∃ fl', fl = loc :: fl' ∧ FreeL g' fl' ∧ objAt g.mem loc = none ∧ loc ≠ 0 ∧
      g'.mem = g.mem.setObj loc (some o) ∧ g'.cur = g.cur ++ [loc] := by
  obtain ⟨rfl, hfree, hmem', hfree', hcur', hoth'⟩ := alloc_fields h
  cases fl with
  | nil => exact absurd inv.chain hfree
  | cons x fl' =>
    obtain ⟨hx, hx0, hxlt, hch⟩ := inv.chain
    rw [hx] at hmem' hfree' hcur' ⊢
    have hlnone := inv.fl_free x (by simp)
    have hnd := List.nodup_cons.mp inv.fl_nodup
    have hobj : ∀ y, objAt g'.mem y = if x = y then some o else objAt g.mem y := by
      intro y; rw [hmem', objAt_setObj]; simp [hxlt]
    refine ⟨fl', rfl, ⟨?_, ?_, hnd.2, ?_, ?_, ?_, hoth'.trans inv.oth_empty, ?_⟩, hlnone, hx0, hmem', hcur'⟩
    · rw [hobj, if_neg hx0]; exact inv.nil_none
    · rw [hmem', hfree']; exact Chain.congr (by simp) (by intro y _; simp) hch
    · intro y hy
      have : x ≠ y := fun h => hnd.1 (h ▸ hy)
      rw [hobj, if_neg this]; exact inv.fl_free y (List.mem_cons_of_mem _ hy)
    · rw [hcur']
      refine List.nodup_append.mpr ⟨inv.cur_nodup, by simp, fun a ha b hb hab => ?_⟩
      rw [List.mem_singleton.mp hb] at hab
      exact inv.not_both (hab ▸ ha) (by simp)
    · intro y
      rw [hcur', hobj, List.mem_append, inv.cur_alloc y, List.mem_singleton]
      by_cases hxy : x = y
      · simp [hxy]
      · simp [hxy, Ne.symm hxy]
    · intro y h0 hy
      rw [hmem', size_setObj] at hy
      rw [hcur', List.mem_append, List.mem_singleton]
      rcases inv.cover y h0 hy with h | h
      · rcases List.mem_cons.mp h with h | h
        · exact Or.inr (Or.inr h)
        · exact Or.inl h
      · exact Or.inr (Or.inl h)

/-- `gc_alloc_any` -/
theorem freeInv_alloc {g g' : Gc} {o : Obj} {loc : Nat} (inv : FreeInv g) (h : g.alloc o = some (g', loc)) :
    FreeInv g' ∧ loc ≠ 0 ∧ objAt g.mem loc = none ∧ objAt g'.mem loc = some o := by
  obtain ⟨fl, inv⟩ := inv
  obtain ⟨fl', hfl, il', hnone, h0, hmem, _⟩ := freeL_alloc inv h
  have hlt : loc < g.mem.size := (inv.chain.lt loc (by simp [hfl])).1
  exact ⟨⟨fl', il'⟩, h0, hnone, by rw [hmem, objAt_setObj]; simp [hlt]⟩

/-! ### stores -/

theorem freeL_setObj {g : Gc} {fl : List Nat} {a : Nat} {o : Obj} (inv : FreeL g fl)
    (ha : (objAt g.mem a).isSome = true ∨ g.mem.size ≤ a) : FreeL { g with mem := g.mem.setObj a (some o) } fl := by
  have hsome : ∀ x, (objAt (g.mem.setObj a (some o)) x).isSome = (objAt g.mem x).isSome := by
    intro x
    rw [objAt_setObj]
    by_cases h : a = x ∧ a < g.mem.size
    · rw [if_pos h]
      rcases ha with ha | ha
      · rw [← h.1, ha]; rfl
      · omega
    · rw [if_neg h]
  have hnone : ∀ x, objAt g.mem x = none → objAt (g.mem.setObj a (some o)) x = none := by
    intro x hx; have := hsome x; rw [hx] at this; simpa using this
  refine ⟨hnone 0 inv.nil_none, Chain.congr (by simp) (by intro x _; simp) inv.chain, inv.fl_nodup,
    fun x hx => hnone x (inv.fl_free x hx), inv.cur_nodup, ?_, inv.oth_empty, ?_⟩
  · intro x; show x ∈ g.cur ↔ _; rw [hsome x]; exact inv.cur_alloc x
  · intro x h0 hx; exact inv.cover x h0 (by simpa using hx)

/-- a store of an object into a cell that holds one (every typed store of the VM), or into no cell at all (address outside the heap) -/
theorem freeInv_setObj {g : Gc} {a : Nat} {o : Obj} (inv : FreeInv g) (ha : (objAt g.mem a).isSome = true ∨ g.mem.size ≤ a) :
    FreeInv { g with mem := g.mem.setObj a (some o) } := by
  obtain ⟨fl, inv⟩ := inv
  exact ⟨fl, freeL_setObj inv ha⟩

/-- `gc_append_arr_elem` -/
theorem freeInv_appendArrElem {g g' : Gc} {a v : Nat} (inv : FreeInv g) (h : g.appendArrElem a v = some g') : FreeInv g' := by
  unfold Gc.appendArrElem at h
  split at h
  · rename_i n mult es ho
    cases h
    exact freeInv_setObj inv (Or.inl (by rw [ho]; rfl))
  · cases h

/-! ### gc_sweep_all, gc_run -/

/-- the sweep after any mark phase `m'`: unmarked allocated cells go to the free chain, marked ones stay, all marks on the list are cleared -/
theorem freeL_sweep {g : Gc} {fl : List Nat} {m' : Mem} (inv : FreeL g fl) (mono : Mono g.mem m') :
    FreeL ({ g with mem := m' } : Gc).sweep ((g.cur.filter (fun x => !marked m' x)).reverse ++ fl) ∧
    ({ g with mem := m' } : Gc).sweep.cur = g.cur.filter (fun x => marked m' x) ∧
    (∀ x, objAt ({ g with mem := m' } : Gc).sweep.mem x = if marked m' x = true then objAt g.mem x else none) ∧
    (∀ x, marked ({ g with mem := m' } : Gc).sweep.mem x = if x ∈ g.cur then false else marked m' x) ∧
    ({ g with mem := m' } : Gc).sweep.mem.size = g.mem.size := by
  obtain ⟨r, fo⟩ := Gc.sweep_res ({ g with mem := m' } : Gc) (fl := fl) inv.cur_nodup
    (fun x hx => ⟨by rw [mono.obj]; exact (inv.cur_alloc x).mp hx, inv.cur_ne_zero hx⟩)
    (fun x hx => inv.not_both hx) (Chain.congr mono.size (fun x _ => mono.next x) inv.chain) inv.oth_empty
  generalize ({ g with mem := m' } : Gc).sweep = g' at r fo ⊢
  replace r : SweepRes m' g.free [] fl g.cur (g'.mem, g'.free, g'.cur) := r
  have hcur' : g'.cur = g.cur.filter (fun x => marked m' x) := by simpa using r.bl
  have hnone : ∀ x, x ∉ g.cur → objAt g.mem x = none := fun x hc =>
    Option.not_isSome_iff_eq_none.mp (fun h => hc ((inv.cur_alloc x).mpr h))
  have hobj' : ∀ x, objAt g'.mem x = if marked m' x = true then objAt g.mem x else none := by
    intro x
    rw [r.obj x, mono.obj]
    by_cases hc : x ∈ g.cur
    · cases hm : marked m' x <;> simp [hc]
    · cases hm : marked m' x <;> simp [hc, hnone x hc]
  have hsize : g'.mem.size = g.mem.size := r.size.trans mono.size
  refine ⟨⟨?_, r.chain, ?_, ?_, ?_, ?_, fo, ?_⟩, hcur', hobj', r.marks, hsize⟩
  · rw [hobj' 0, inv.nil_none, ite_self]
  · refine List.nodup_append.mpr ⟨(List.reverse_perm _).nodup_iff.mpr (inv.cur_nodup.filter _), inv.fl_nodup, ?_⟩
    intro a ha b hb hab; subst hab
    exact inv.not_both (List.mem_filter.mp (List.mem_reverse.mp ha)).1 hb
  · intro x hx
    rw [hobj' x]
    rcases List.mem_append.mp hx with h | h
    · have : marked m' x = false := by simpa using (List.mem_filter.mp (List.mem_reverse.mp h)).2
      simp [this]
    · rw [inv.fl_free x h, ite_self]
  · rw [hcur']; exact inv.cur_nodup.filter _
  · intro x
    rw [hcur', hobj' x, List.mem_filter]
    by_cases hc : x ∈ g.cur
    · cases hm : marked m' x <;> simp [hc, (inv.cur_alloc x).mp hc]
    · simp [hc, hnone x hc]
  · intro x h0 hx
    rw [hcur', List.mem_append, List.mem_reverse, List.mem_filter, List.mem_filter]
    rcases inv.cover x h0 (hsize ▸ hx) with h | h
    · exact Or.inl (Or.inr h)
    · cases hm : marked m' x
      · exact Or.inl (Or.inl ⟨h, by simp [hm]⟩)
      · exact Or.inr ⟨h, rfl⟩

/-- a whole collection (`gc_run` past its threshold test), whatever the roots and whatever the objects hold -/
theorem freeInv_collect {g g' : Gc} {st : List Slot} {gp : Nat} (inv : FreeInv g) (h : g.collect st gp = some g') : FreeInv g' := by
  obtain ⟨fl, inv⟩ := inv
  rw [collect_eq] at h
  cases hmp : markPhase g.fuel g.mem st gp with
  | none => rw [hmp] at h; cases h
  | some m' =>
    rw [hmp] at h
    cases h
    exact ⟨_, (freeL_sweep inv (markPhase_spec hmp).post.mono).1⟩

/-- `gc_run` with its own trigger -/
theorem freeInv_run {g g' : Gc} {st : List Slot} {gp : Nat} (inv : FreeInv g) (h : g.run st gp = some g') : FreeInv g' := by
  unfold Gc.run at h
  split at h
  · exact freeInv_collect inv h
  · cases h; exact inv

end Never
