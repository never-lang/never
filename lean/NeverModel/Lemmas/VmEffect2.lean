import NeverModel.Lemmas.VmEffect
set_option linter.unusedSimpArgs false
/-! stack-pointer effect of further handler families of M-VM: a small logic (`EffAt`) and its automation -/
namespace Never.Vm
open Never Never.Num

/-- started with `sp = s`, a completed run of `f` leaves fp/pp/stack size alone and ends with `sp = s + d`,
or with a raised exception (`running = VM_EXCEPTION`; the handler entered next resets `sp` from `fp`, see C03),
or stopped in `VM_ERROR` (a failed `assert`: the machine executes nothing further) -/
def EffAt {α} (s d : Int) (f : M α) : Prop :=
  ∀ vm a vm', vm.sp = s → f.run vm = .ok (a, vm') →
    vm'.fp = vm.fp ∧ vm'.pp = vm.pp ∧ vm'.stackSize = vm.stackSize ∧
    (vm'.sp = s + d ∨ vm'.running = 2 ∨ vm'.running = 3)

theorem EffAt.keeps_bind {α β} {s d : Int} {f : M α} {g : α → M β} (hf : KeepsSp f) (hg : ∀ a, EffAt s d (g a)) :
    EffAt s d (f >>= g) := by
  intro vm b vm'' hs h
  obtain ⟨a, vm', h1, h2⟩ := (run_bind_ok f g vm vm'' b).mp h
  obtain ⟨a1, a2, a3, a4⟩ := hf vm a vm' h1
  obtain ⟨b1, b2, b3, b4⟩ := hg a vm' b vm'' (by omega) h2
  exact ⟨by omega, by omega, by omega, b4⟩

theorem EffAt.getSp_bind {β} {s d : Int} {g : Int → M β} (hg : EffAt s d (g s)) : EffAt s d (getSp >>= g) := by
  intro vm b vm'' hs h
  obtain ⟨a, vm', h1, h2⟩ := (run_bind_ok getSp g vm vm'' b).mp h
  obtain ⟨rfl, rfl⟩ := getSp_run _ _ _ h1
  subst hs
  exact hg _ _ _ rfl h2

theorem EffAt.setSp (s d v : Int) (hv : v = s + d) : EffAt s d (setSp v) := by
  intro vm a vm' hs h
  obtain ⟨t1, t2, t3, t4, _⟩ := keeps_setSp_run _ _ _ _ h
  exact ⟨t2, t3, t4, Or.inl (by omega)⟩

theorem EffAt.raise (s d : Int) (e : Nat) : EffAt s d (raise e) := by
  intro vm a vm' hs h
  simp [Vm.raise, modify, modifyGet, MonadStateOf.modifyGet, StateT.modifyGet, StateT.run, pure, Except.pure] at h
  obtain ⟨_, rfl⟩ := h
  exact ⟨rfl, rfl, rfl, Or.inr (Or.inl rfl)⟩

theorem EffAt.crash {α} (s d : Int) (w : String) : EffAt s d (crash w : M α) := by
  intro vm a vm' hs h; exact absurd h (by simp [Vm.crash, throw, throwThe, MonadExceptOf.throw, StateT.run, StateT.lift, liftM, monadLift, MonadLift.monadLift, Except.bind, bind])

theorem EffAt.exit {α} (s d : Int) (w : String) (o : List UInt8) : EffAt s d (exitVm w o : M α) := by
  intro vm a vm' hs h; exact absurd h (by simp [exitVm, throw, throwThe, MonadExceptOf.throw, StateT.run, StateT.lift, liftM, monadLift, MonadLift.monadLift, Except.bind, bind])

theorem EffAt.of_keeps {α} {s : Int} {f : M α} (hf : KeepsSp f) : EffAt s 0 f := by
  intro vm a vm' hs h
  obtain ⟨a1, a2, a3, a4⟩ := hf vm a vm' h
  exact ⟨a2, a3, a4, Or.inl (by omega)⟩

theorem EffAt.pure_zero {α} (s : Int) (a : α) : EffAt s 0 (pure a : M α) := EffAt.of_keeps (KeepsSp.pure a)



theorem EffAt.pushAddr (s : Int) (a : Nat) : EffAt s 1 (pushAddr a) := by
  intro vm u vm' hs h
  obtain ⟨_, _, rfl⟩ := pushP_eq (pushAddr_run h)
  exact ⟨rfl, rfl, rfl, Or.inl (by simp only; omega)⟩


/-- `sp` gets its final value, the rest keeps it -/
theorem EffAt.setSp_bind {β} (s d v : Int) (hv : v = s + d) {g : PUnit → M β} (hg : ∀ a, KeepsSp (g a)) :
    EffAt s d (Vm.setSp v >>= g) := by
  intro vm b vm'' hs h
  obtain ⟨a, vm', h1, h2⟩ := (run_bind_ok _ g vm vm'' b).mp h
  obtain ⟨t1, t2, t3, t4, _⟩ := keeps_setSp_run _ _ _ _ h1
  obtain ⟨b1, b2, b3, b4⟩ := hg a vm' b vm'' h2
  exact ⟨by omega, by omega, by omega, Or.inl (by omega)⟩

theorem EffAt.congr_d {α} {s d d' : Int} {f : M α} (h : EffAt s d' f) (hd : d = d') : EffAt s d f := by subst hd; exact h

theorem EffAt.pushAddr' (s d : Int) (a : Nat) (hd : d = 1) : EffAt s d (Vm.pushAddr a) := by subst hd; exact EffAt.pushAddr s a
theorem EffAt.of_keeps' {α} {s d : Int} {f : M α} (hf : KeepsSp f) (hd : d = 0) : EffAt s d f := by subst hd; exact EffAt.of_keeps hf

/-- `sp` is set to `v`; the rest is judged from there -/
theorem EffAt.setSp_then {β} (s d v : Int) {g : PUnit → M β} (hg : ∀ a, EffAt v (s + d - v) (g a)) :
    EffAt s d (Vm.setSp v >>= g) := by
  intro vm b vm'' hs h
  obtain ⟨a, vm', h1, h2⟩ := (run_bind_ok _ g vm vm'' b).mp h
  obtain ⟨t1, t2, t3, t4, _⟩ := keeps_setSp_run _ _ _ _ h1
  obtain ⟨b1, b2, b3, b4⟩ := hg a vm' b vm'' t1 h2
  refine ⟨by omega, by omega, by omega, ?_⟩
  rcases b4 with b4 | b4
  · left; omega
  · right; exact b4

/-- automation for `EffAt` goals -/
syntax "eff" : tactic
theorem EffAt.stop (s d : Int) (f : Vm → Vm) (hf : ∀ vm, (f vm).fp = vm.fp ∧ (f vm).pp = vm.pp ∧ (f vm).stackSize = vm.stackSize ∧ (f vm).running = 3) :
    EffAt s d (modify f : M PUnit) := by
  intro v x v' hs h
  simp [modify, modifyGet, MonadStateOf.modifyGet, StateT.modifyGet, StateT.run, pure, Except.pure] at h
  obtain ⟨_, rfl⟩ := h
  obtain ⟨a, b, c, e⟩ := hf v
  exact ⟨a, b, c, Or.inr (Or.inr e)⟩

macro_rules
  | `(tactic| eff) => `(tactic|
      first
      | with_reducible exact EffAt.setSp _ _ _ (by omega)
      | with_reducible exact EffAt.stop _ _ _ (fun _ => ⟨rfl, rfl, rfl, rfl⟩)
      | with_reducible exact EffAt.raise _ _ _
      | with_reducible exact EffAt.crash _ _ _
      | with_reducible exact EffAt.exit _ _ _ _
      | with_reducible exact EffAt.pushAddr' _ _ _ (by omega)
      | (with_reducible refine EffAt.of_keeps' ?hf ?hd; (case hd => omega); (case hf => keeps))
      | (with_reducible refine EffAt.getSp_bind ?hg; (case hg => eff))
      | (with_reducible refine EffAt.setSp_bind _ _ _ ?hv (fun _ => ?hg); (case hv => omega); (case hg => keeps))
      | (with_reducible refine EffAt.setSp_then _ _ _ (fun _ => ?hg); (case hg => eff))
      | (with_reducible refine EffAt.keeps_bind ?hf (fun _ => ?hg); (case hf => keeps); (case hg => eff))
      | (split <;> eff))

end Never.Vm
