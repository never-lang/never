/-
The reference evaluator along tail children: once control has reached a tail child, the value of the construct IS
the value of the child (same result cell, same state, same exception, same stop).
-/
import NeverModel.Lemmas.TailRec
namespace Never.Src.Tail
open Never.Src

theorem load_ok {s : St} {l : Loc} {v : Val} (h : s.mem[l]? = some v) : load l s = .ok v s := by
  simp [load, h]

section reach
variable {ctx : Ctx} {f f1 f' i : Nat} {env env1 env' : Env} {s s1 s' : St} {l : Loc} {e c x b : Expr} {sl : Slot} {p : Path}

/-- a block whose items before the last complete normally evaluates to its last expression -/
theorem seqReach_eval {items : List Item} (h : SeqReach ctx f env s items i f' env' s' e) :
    evalSeq f ctx env items s = evalE f' ctx env' e s' ∧ i + 1 = items.length ∧ items[i]? = some (.expr e) := by
  induction h with
  | last => simp [evalSeq]
  | @expr f env s a rest l s1 i f' env' s' e ha hne _ ih =>
    obtain ⟨ih1, ih2, ih3⟩ := ih
    refine ⟨?_, by simp [ih2], by simpa using ih3⟩
    cases rest with
    | nil => exact absurd rfl hne
    | cons r rs => simp only [evalSeq, bind_eq, M.bind, ha]; exact ih1
  | bind ha _ ih =>
    obtain ⟨ih1, ih2, ih3⟩ := ih
    refine ⟨?_, by simp [ih2], by simpa using ih3⟩
    simp only [evalSeq, bind_eq, M.bind, ha]; exact ih1
  | funcs ha _ ih =>
    obtain ⟨ih1, ih2, ih3⟩ := ih
    refine ⟨?_, by simp [ih2], by simpa using ih3⟩
    simp only [evalSeq, bind_eq, M.bind, ha]; exact ih1

/-- the slot of an arm's body -/
def armSlot : Guard → Slot
  | .item .. => .armItem
  | .recd .. => .armRecd
  | .els _ => .armEls

theorem specTail_armSlot (g : Guard) : specTail (armSlot g) = true := by
  cases g <;> rfl

theorem kid_arm {gs : List Guard} {g : Guard} (sc : Expr) (h : gs[i]? = some g) :
    kid (.matchE sc gs) (armSlot g) i = some g.body := by
  cases g <;> simp only [kid, armSlot, h, Guard.body]

/-- matching selects the first guard that applies; the result is the value of its body, which is the child at the
guard's slot -/
theorem guardReach_eval {gs : List Guard} (h : GuardReach ctx f env s l gs sl i f' env' b) :
    evalGuards f ctx env l gs s = evalE f' ctx env' b s ∧ ∃ g, gs[i]? = some g ∧ sl = armSlot g ∧ b = g.body := by
  induction h with
  | els => exact ⟨by rw [evalGuards], _, rfl, rfl, rfl⟩
  | itemInt hf hl hv =>
    refine ⟨?_, _, rfl, rfl, rfl⟩
    simp only [evalGuards, bind_eq, M.bind, hf, load, hl, hv, if_true]
  | itemRec hf hl ho ht =>
    refine ⟨?_, _, rfl, rfl, rfl⟩
    simp only [evalGuards, bind_eq, M.bind, hf, load, hl, ho, ht, if_true]
  | recd hl ho ht =>
    refine ⟨?_, _, rfl, rfl, rfl⟩
    simp only [evalGuards, bind_eq, M.bind, load, hl, ho, ht, if_true]
  | skipItemInt hf hl hv _ ih =>
    refine ⟨?_, ih.2⟩
    simp only [evalGuards, bind_eq, M.bind, hf, load, hl, hv, if_false]
    exact ih.1
  | skipItemRec hf hl ho ht _ ih =>
    refine ⟨?_, ih.2⟩
    simp only [evalGuards, bind_eq, M.bind, hf, load, hl, ho, ht, if_false]
    exact ih.1
  | skipRecd hl ho ht _ ih =>
    refine ⟨?_, ih.2⟩
    simp only [evalGuards, bind_eq, M.bind, load, hl, ho, ht, if_false]
    exact ih.1
  | skipRecdInt hl _ ih =>
    refine ⟨?_, ih.2⟩
    simp only [evalGuards, bind_eq, M.bind, load, hl]
    exact ih.1

theorem evalE_cond {lc : Loc} {v : Int32} (t e : Expr) (hc : evalE f ctx env c s = .ok lc s1)
    (hl : s1.mem[lc]? = some (.int v)) :
    evalE (f + 1) ctx env (.cond c t e) s = if v != 0 then evalE f ctx env t s1 else evalE f ctx env e s1 := by
  simp only [evalE, bind_eq, M.bind, hc, load, hl, truthy, pure, M.pure]
  split <;> rfl

theorem evalE_matchE (gs : List Guard) (hc : evalE f ctx env c s = .ok l s1) :
    evalE (f + 1) ctx env (.matchE c gs) s = evalGuards f ctx env l gs s1 := by
  simp only [evalE, bind_eq, M.bind, hc]

theorem evalE_ifLet (g : Guard) (els : Expr) (hc : evalE f ctx env c s = .ok l s1) :
    evalE (f + 1) ctx env (.ifLet g c els) s = evalGuards f ctx env l [g, .els els] s1 := by
  simp only [evalE, bind_eq, M.bind, hc]

/-- one more tail child `c` of `e` on top of a path from `c` that gives `c` its result -/
theorem reach_step (hk : kid e sl i = some c) (ht : specTail sl = true) (hev : evalE f ctx env e s = evalE f1 ctx env1 c s1)
    (ih : evalE f1 ctx env1 c s1 = evalE f' ctx env' x s' ∧ sub c p = some x ∧ ∀ st ∈ p, specTail st.1 = true) :
    evalE f ctx env e s = evalE f' ctx env' x s' ∧ sub e ((sl, i) :: p) = some x ∧
      ∀ st ∈ (sl, i) :: p, specTail st.1 = true :=
  ⟨hev.trans ih.1, by simp only [sub, hk]; exact ih.2.1, List.forall_mem_cons.mpr ⟨ht, ih.2.2⟩⟩

/-- **reaching a node along tail children: the construct's result is the node's result** -/
theorem reach_eval (h : Reach ctx f env s e p f' env' s' x) :
    evalE f ctx env e s = evalE f' ctx env' x s' ∧ sub e p = some x ∧ ∀ st ∈ p, specTail st.1 = true := by
  induction h with
  | here => exact ⟨rfl, rfl, fun _ h => absurd h List.not_mem_nil⟩
  | condT hc hl hv _ ih => exact reach_step rfl rfl ((evalE_cond _ _ hc hl).trans (if_pos hv)) ih
  | condE hc hl hv _ ih => exact reach_step rfl rfl ((evalE_cond _ _ hc hl).trans (if_neg (by rw [hv]; nofun))) ih
  | seqLast hs _ ih =>
    obtain ⟨h1, h2, h3⟩ := seqReach_eval hs
    refine reach_step ?_ rfl ?_ ih
    · simp only [kid, h3, h2, if_true]
    · rw [evalE, h1]
  | arm hc hr _ ih =>
    obtain ⟨h1, g, hg, rfl, rfl⟩ := guardReach_eval hr
    exact reach_step (kid_arm _ hg) (specTail_armSlot g) ((evalE_matchE _ hc).trans h1) ih
  | ifLetThen hc hr _ ih =>
    obtain ⟨h1, g, hg, _, rfl⟩ := guardReach_eval hr
    cases hg
    exact reach_step rfl rfl ((evalE_ifLet _ _ hc).trans h1) ih
  | ifLetElse hc hr _ ih =>
    obtain ⟨h1, g, hg, _, rfl⟩ := guardReach_eval hr
    cases hg
    exact reach_step rfl rfl ((evalE_ifLet _ _ hc).trans h1) ih

/-- with no fuel nothing but the node itself is reached, and it does not evaluate -/
theorem reach_zero (h : Reach ctx 0 env s e p f' env' s' x) : f' = 0 := by
  cases h; rfl

end reach

/-! ### the function around the body: conversion of the result, catch clauses -/

theorem convTo_idem {t : Ty} {v v' : Val} (h : convTo t v = some v') : convTo t v' = none := by
  unfold convTo at h
  split at h <;> cases h <;> rfl

theorem convCell_of_none {t : Ty} {l : Loc} {s : St} {v : Val} (hv : s.mem[l]? = some v) (hc : convTo t v = none) :
    convCell t l s = .ok l s := by
  simp only [convCell, bind_eq, M.bind, load, hv, hc]
  rfl

/-- the result cell of a call already holds a value of the declared result type: converting it again changes nothing -/
theorem convCell_idem {t : Ty} {r l : Loc} {s s1 : St} (h : convCell t r s = .ok l s1) : convCell t l s1 = .ok l s1 := by
  simp only [convCell, bind_eq, M.bind, load] at h
  cases hv : s.mem[r]? with
  | none => rw [hv] at h; cases h
  | some v =>
    rw [hv] at h
    simp only [] at h
    cases hc : convTo t v with
    | none =>
      rw [hc] at h
      cases h
      exact convCell_of_none hv hc
    | some v' =>
      rw [hc] at h
      cases h
      exact convCell_of_none (by simp) (convTo_idem hc)

theorem callClo_result_converted {n : Nat} {ctx : Ctx} {fid : Nat} {cells args : List Loc} {s s1 : St} {l : Loc} {fn : FunEntry}
    (hfn : ctx.findFun fid = some fn) (h : callClo n ctx fid cells args s = .ok l s1) : convCell fn.ret l s1 = .ok l s1 := by
  cases n with
  | zero => simp [callClo, oof, stopM] at h
  | succ n =>
    simp only [callClo, hfn] at h
    split at h
    · simp [stuck, stopM] at h
    · simp only [bind_eq, M.bind] at h
      split at h
      · rename_i env s0 _
        split at h
        · exact convCell_idem h
        · cases h
        · cases h
      · cases h
      · cases h

/-! ### a concrete enum context for the counterexamples of Props/C13 -/

def exCtx : Ctx :=
  { enums := [{ name := "E", items := [{ name := "one", value := 0, fields := none }, { name := "two", value := 1, fields := none }] }] }
/-- `match E::one { E::one -> E::two; E::two -> E::one; }` -/
def exFlip : Expr := .matchE (.enumVal "E" "one") [.item "E" "one" (.enumVal "E" "two"), .item "E" "two" (.enumVal "E" "one")]

theorem exCtx_one : exCtx.findItem "E" "one" = some (0, { name := "one", value := 0, fields := none }) := by rfl
theorem exCtx_two : exCtx.findItem "E" "two" = some (1, { name := "two", value := 1, fields := none }) := by rfl
theorem exCtx_rec : exCtx.enumIsRec "E" = false := by rfl

end Never.Src.Tail
