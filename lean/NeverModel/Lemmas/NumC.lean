/-
Helper lemmas for Props/C10 and Props/C11:
 * `spec_sound`  : the canonical handler of every `Sem` (CExpr.specCore), run with the C semantics
                   `evalC`, equals Never.Num's `bin / un / conv` for ALL operand values
 * `evalC_congr` : an expression whose operand reads are all at the getter types evaluates equally under
                   any two readers that agree at those types
 * `fold_agrees` : a folding clause that is syntactically the same guarded expression as its handler
                   (FoldRow.agreesWith) folds to exactly what the handler computes
-/
import NeverModel.Model.CExpr
import NeverModel.Lemmas.NumCrash
namespace Never.CExpr
open Never.Num

theorem se_slt (x y : BitVec 8) : (BitVec.signExtend 32 x).slt (BitVec.signExtend 32 y) = x.slt y := by
  simp [BitVec.slt, BitVec.toInt_signExtend_of_le]
theorem se_sle (x y : BitVec 8) : (BitVec.signExtend 32 x).sle (BitVec.signExtend 32 y) = x.sle y := by
  simp [BitVec.sle, BitVec.toInt_signExtend_of_le]
theorem se_beq (x y : BitVec 8) : (BitVec.signExtend 32 x == BitVec.signExtend 32 y) = (x == y) := by
  rw [Bool.eq_iff_iff, beq_iff_eq, beq_iff_eq, ← BitVec.toInt_inj, ← BitVec.toInt_inj (x := x)]
  simp [BitVec.toInt_signExtend_of_le]

/-- what `runGE` stores at type `out` for the outcome of the result expression -/
def store (out : NTy) : CRes → NRes
  | .ok v => if v.ty = out then .ok v.toN else .crash "ill-typed C expression (translator)"
  | .crash w => .crash w

/-- a guard that evaluates to the C truth value of `p` raises its exception exactly when `p` holds -/
theorem runGE_guard (ra rb : NTy → CRes) (g e : CExpr) (n : Nat) (out : NTy) (p : Bool) (hg : evalC ra rb g = cBool p) :
    runGE ra rb (some (g, n)) e out = if p then .exc n else store out (evalC ra rb e) := by
  simp only [runGE, hg]
  cases p <;> rfl

/-- the zero-divisor guard turns the trap of the guarded division into the exception and leaves the other outcomes -/
theorem store_guarded {p q : Prop} [Decidable p] [Decidable q] (out : NTy) (w w' : String) (v : CVal) :
    (if decide p then NRes.exc 1 else store out (if p then .crash w else if q then .crash w' else .ok v)) =
      if p then .exc 1 else if q then .crash w' else store out (.ok v) := by
  by_cases hp : p <;> by_cases hq : q <;> simp [hp, hq, store]

theorem Core.eval_of_tags (c : Core) (a b : NVal) (ha : a.ty = c.getA) (hb : wrongTagB c.getB b = false) :
    c.eval a b = runGE (rdVm a) (rdVm b) c.guard c.expr c.alloc := by
  simp [Core.eval, ha, hb]

/-- a handler that reads both operands at `ty` asserts both object tags -/
theorem Core.eval_tag {c : Core} {ty : NTy} {a b : NVal} (hA : c.getA = ty) (hB : c.getB = some ty)
    (h : ¬(a.ty = ty ∧ b.ty = ty)) : c.eval a b = .tag := by
  simp only [Core.eval, wrongTagB, hA, hB]
  by_cases ha : a.ty = ty <;> simp_all

theorem specCore_bin_getters {ty : NTy} {op : BinOp} {c : Core} (h : specCore (.bin ty op) = some c) :
    c.getA = ty ∧ c.getB = some ty := by
  cases ty <;> cases op <;> cases h <;> exact ⟨rfl, rfl⟩

section typed
variable {op : BinOp} {c : Core}

/-! On operands of its own type a canonical binary handler computes `Num.bin`: all but a few operators by
unfolding; `/` and `%` through their guard; the shifts carry the same range test on both sides. -/

theorem spec_sound_int (h : specCore (.bin .int op) = some c) (x y : BitVec 32) :
    c.eval (.int x) (.int y) = binInt op x y := by
  cases op <;> cases h
  case shl | shr => exact apply_ite (store .int) _ _ _
  case div | mod =>
    exact (Core.eval_of_tags _ _ _ rfl rfl).trans ((runGE_guard _ _ _ _ _ _ (y == 0) rfl).trans (store_guarded _ _ _ _))
  all_goals rfl

theorem spec_sound_long (h : specCore (.bin .long op) = some c) (x y : BitVec 64) :
    c.eval (.long x) (.long y) = binLong op x y := by
  cases op <;> cases h
  case shl | shr => exact apply_ite (store .long) _ _ _
  case div | mod =>
    exact (Core.eval_of_tags _ _ _ rfl rfl).trans ((runGE_guard _ _ _ _ _ _ (y == 0) rfl).trans (store_guarded _ _ _ _))
  all_goals rfl

theorem spec_sound_float (h : specCore (.bin .float op) = some c) (x y : BitVec 32) :
    c.eval (.float x) (.float y) = binFloat op x y := by
  cases op <;> cases h
  case div => exact (Core.eval_of_tags _ _ _ rfl rfl).trans (runGE_guard _ _ _ _ _ _ (f32 y == 0) rfl)
  all_goals rfl

theorem spec_sound_double (h : specCore (.bin .double op) = some c) (x y : BitVec 64) :
    c.eval (.double x) (.double y) = binDouble op x y := by
  cases op <;> cases h
  case div => exact (Core.eval_of_tags _ _ _ rfl rfl).trans (runGE_guard _ _ _ _ _ _ (f64 y == 0) rfl)
  all_goals rfl

/-- `signed char` operands are compared after promotion to `int`, which preserves order and equality -/
theorem spec_sound_char (h : specCore (.bin .char op) = some c) (x y : BitVec 8) :
    c.eval (.char x) (.char y) = binChar op x y := by
  cases op <;> cases h
  case lt => exact congrArg (fun p => NRes.ok (ofBool p)) (se_slt x y)
  case gt => exact congrArg (fun p => NRes.ok (ofBool p)) (se_slt y x)
  case lte => exact congrArg (fun p => NRes.ok (ofBool p)) (se_sle x y)
  case gte => exact congrArg (fun p => NRes.ok (ofBool p)) (se_sle y x)
  case eq => exact congrArg (fun p => NRes.ok (ofBool p)) (se_beq x y)
  case neq => exact congrArg (fun p => NRes.ok (ofBool !p)) (se_beq x y)

end typed

theorem spec_sound_bin (ty : NTy) (op : BinOp) (c : Core) (h : specCore (.bin ty op) = some c) (a b : NVal) :
    c.eval a b = Num.bin ty op a b := by
  by_cases ht : a.ty = ty ∧ b.ty = ty
  · obtain ⟨rfl, hb⟩ := ht
    cases a <;> cases b <;> try cases hb
    · exact spec_sound_int h _ _
    · exact spec_sound_long h _ _
    · exact spec_sound_float h _ _
    · exact spec_sound_double h _ _
    · exact spec_sound_char h _ _
  · obtain ⟨hA, hB⟩ := specCore_bin_getters h
    rw [bin_tag op ht, Core.eval_tag hA hB ht]

theorem spec_sound (sem : Sem) (c : Core) (h : specCore sem = some c) (a b : NVal) : c.eval a b = sem.eval a b := by
  cases sem with
  | bin ty op => exact spec_sound_bin ty op c h a b
  | un ty op => cases ty <;> cases op <;> cases h <;> cases a <;> rfl
  | conv s d => cases s <;> cases d <;> cases h <;> cases a <;> rfl

theorem evalC_congr {ta : NTy} {tb : Option NTy} {ra rb ra' rb' : NTy → CRes}
    (ha : ra ta = ra' ta) (hb : ∀ t, tb = some t → rb t = rb' t) (e : CExpr) (he : readsAt ta tb e = true) :
    evalC ra rb e = evalC ra' rb' e := by
  induction e <;> simp_all [readsAt, evalC]

/-- a clause that is the same guarded expression as its handler folds to exactly what the handler computes, and the
    handler's tag assertions hold on literals of the clause's kinds: it runs its guarded expression, with exception 1 -/
theorem fold_agrees (r : FoldRow) (c : Core) (h : r.agreesWith c = true) (a b : NVal) (wk : r.wellKinded a b) :
    r.eval a b = FoldRes.ofNRes r.resKind (c.eval a b) ∧
    c.eval a b = runGE (rdVm a) (rdVm b) (r.guard.map (·, 1)) r.expr r.resMember := by
  simp only [FoldRow.agreesWith, Bool.and_eq_true, beq_iff_eq] at h
  obtain ⟨⟨⟨⟨⟨⟨⟨hA, hB⟩, hE⟩, hRE⟩, hG⟩, hRG⟩, hAl⟩, hSt⟩ := h
  obtain ⟨wa, wb⟩ := id wk
  have ha : rdLit r.kindA a c.getA = rdVm a c.getA := by simp [rdLit, rdVm, hA, wa]
  -- if operand b is read at all, both read it at the storage type of its kind, which is its tag
  have hb : ∀ t, c.getB = some t → b.ty = t ∧ r.rdB b t = rdVm b t := by
    intro t ht
    cases hk : r.kindB with
    | none => simp [hB, hk] at ht
    | some kb =>
      rw [hk] at wb
      rw [hB, hk] at ht
      cases ht
      exact ⟨wb, by simp [FoldRow.rdB, hk, rdLit, rdVm, wb]⟩
  have htb : wrongTagB c.getB b = false := by
    cases hg : c.getB with
    | none => rfl
    | some t => simp [wrongTagB, (hb t hg).1]
  have he := evalC_congr ha (fun t ht => (hb t ht).2)
  have hrun := Core.eval_of_tags c a b (wa.trans hA.symm) htb
  rw [← hE, ← hG, ← hAl] at hrun
  refine ⟨?_, hrun⟩
  rw [hrun]
  unfold FoldRow.eval
  rw [if_neg (fun h => h wk), if_neg (fun h => h hSt)]
  cases hg : r.guard with
  | none => simp only [runGE, Option.map, he _ hRE]
  | some g =>
    rw [hg] at hRG
    simp only [runGE, Option.map, he _ hRE, he g hRG]

end Never.CExpr
