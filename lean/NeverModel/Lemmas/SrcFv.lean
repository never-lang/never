/-
Free-variable lists are exact: `fv f` contains precisely the names that occur in `f` (body and
catch clauses, transitively through nested functions) outside the scope of every binder of `f`,
each once.
-/
import NeverModel.Model.SrcSyn
namespace Never.Src

mutual
/-- `occE y bound e`: the name `y` is used in `e` at a place where no binder of `e` (nor of
`bound`) is in scope for it -/
def occE (y : Name) (bound : List Name) : Expr → Prop
  | .lit _ | .enumVal _ _ => False
  | .var x | .dimVar x => x = y ∧ y ∉ bound
  | .un _ a => occE y bound a
  | .bin _ a b | .and a b | .or a b | .assign a b | .while a b | .doWhile a b => occE y bound a ∨ occE y bound b
  | .cond c t e => occE y bound c ∨ occE y bound t ∨ occE y bound e
  | .seq items => occItems y bound items
  | .for i c s b => occE y bound i ∨ occE y bound c ∨ occE y bound s ∨ occE y bound b
  | .forIn x coll b => occE y bound coll ∨ occE y (x :: bound) b
  | .call f args => occEs y bound args ∨ occE y bound f
  | .pipe l f args => occEs y bound args ∨ occE y bound l ∨ occE y bound f
  | .builtin _ args | .arrLit _ args _ | .arrNew args _ | .record _ args | .tuple args
  | .enumRec _ _ args | .range args => occEs y bound args
  | .lam fn => occF y bound fn
  | .index a idx | .slice a idx => occE y bound a ∨ occEs y bound idx
  | .field e _ => occE y bound e
  | .matchE e gs => occE y bound e ∨ occGuards y bound gs
  | .ifLet g e els => occE y bound e ∨ occGuard y bound g ∨ occE y bound els
  | .listcomp body quals _ => occQuals y bound quals ∨ occE y (qualBinders quals ++ bound) body
def occEs (y : Name) (bound : List Name) : List Expr → Prop
  | [] => False
  | e :: es => occE y bound e ∨ occEs y bound es
def occItems (y : Name) (bound : List Name) : List Item → Prop
  | [] => False
  | .expr e :: rest => occE y bound e ∨ occItems y bound rest
  | .bind _ x e :: rest => occE y bound e ∨ occItems y (x :: bound) rest
  | .funcs fs :: rest => occFs y (funcNames fs ++ bound) fs ∨ occItems y (funcNames fs ++ bound) rest
def occFs (y : Name) (bound : List Name) : List Func → Prop
  | [] => False
  | fn :: fs => occF y bound fn ∨ occFs y bound fs
def occF (y : Name) (bound : List Name) : Func → Prop
  | .mk _ n ps _ body cs =>
    occE y (paramBinders ps ++ (n :: bound)) body ∨ occCatches y (paramBinders ps ++ (n :: bound)) cs
def occCatches (y : Name) (bound : List Name) : List Catch → Prop
  | [] => False
  | .mk _ b :: cs => occE y bound b ∨ occCatches y bound cs
def occGuard (y : Name) (bound : List Name) : Guard → Prop
  | .item _ _ b | .els b => occE y bound b
  | .recd _ _ binds b => occE y (binds ++ bound) b
def occGuards (y : Name) (bound : List Name) : List Guard → Prop
  | [] => False
  | g :: gs => occGuard y bound g ∨ occGuards y bound gs
def occQuals (y : Name) (bound : List Name) : List Qual → Prop
  | [] => False
  | .filter e :: qs => occE y bound e ∨ occQuals y bound qs
  | .gen x coll :: qs => occE y bound coll ∨ occQuals y (x :: bound) qs
end

theorem mem_addFv (y x : Name) (acc : List Name) : y ∈ addFv acc x ↔ y ∈ acc ∨ x = y := by
  unfold addFv
  split
  · constructor
    · intro h; exact Or.inl h
    · intro h
      cases h with
      | inl h => exact h
      | inr h => subst h; assumption
  · simp [eq_comm]

theorem nodup_addFv (x : Name) (acc : List Name) (h : acc.Nodup) : (addFv acc x).Nodup := by
  unfold addFv
  split
  · exact h
  · rename_i hx
    rw [List.nodup_append]
    refine ⟨h, by simp, ?_⟩
    intro a ha b hb
    simp at hb
    subst hb
    intro heq
    subst heq
    exact hx ha

mutual
theorem mem_fvE (y : Name) (bound acc : List Name) : ∀ e : Expr,
    y ∈ fvE bound acc e ↔ y ∈ acc ∨ occE y bound e
  | .lit _ | .enumVal _ _ => by simp [fvE, occE]
  | .var x | .dimVar x => by
    simp only [fvE, occE]
    split <;> rename_i hx
    · exact ⟨Or.inl, fun h => h.elim id fun h => absurd (h.1 ▸ hx) h.2⟩
    · rw [mem_addFv]
      exact or_congr_right ⟨fun h => ⟨h, h ▸ hx⟩, And.left⟩
  | .un _ a => by simp only [fvE, occE, mem_fvE y bound acc a]
  | .bin _ a b | .and a b | .or a b | .assign a b | .while a b | .doWhile a b => by
    simp only [fvE, occE, mem_fvE y bound _ b, mem_fvE y bound acc a, or_assoc]
  | .cond c t e => by
    simp only [fvE, occE, mem_fvE y bound _ e, mem_fvE y bound _ t, mem_fvE y bound acc c, or_assoc]
  | .seq items => by simp only [fvE, occE, mem_fvItems y bound acc items]
  | .for i c s b => by
    simp only [fvE, occE, mem_fvE y bound _ b, mem_fvE y bound _ s, mem_fvE y bound _ c, mem_fvE y bound acc i, or_assoc]
  | .forIn x coll b => by simp only [fvE, occE, mem_fvE y (x :: bound) _ b, mem_fvE y bound acc coll, or_assoc]
  | .call f args => by simp only [fvE, occE, mem_fvE y bound _ f, mem_fvEs y bound acc args, or_assoc]
  | .pipe l f args => by simp only [fvE, occE, mem_fvE y bound _ f, mem_fvE y bound _ l, mem_fvEs y bound acc args, or_assoc]
  | .builtin _ args | .arrLit _ args _ | .arrNew args _ | .record _ args | .tuple args | .enumRec _ _ args | .range args => by
    simp only [fvE, occE, mem_fvEs y bound acc args]
  | .lam fn => by simp only [fvE, occE, mem_fvF y bound acc fn]
  | .index a idx | .slice a idx => by simp only [fvE, occE, mem_fvEs y bound _ idx, mem_fvE y bound acc a, or_assoc]
  | .field e _ => by simp only [fvE, occE, mem_fvE y bound acc e]
  | .matchE e gs => by simp only [fvE, occE, mem_fvGuards y bound _ gs, mem_fvE y bound acc e, or_assoc]
  | .ifLet g e els => by
    simp only [fvE, occE, mem_fvE y bound _ els, mem_fvGuard y bound _ g, mem_fvE y bound acc e, or_assoc]
  | .listcomp body quals _ => by
    simp only [fvE, occE, mem_fvE y _ _ body, mem_fvQuals y bound acc quals, or_assoc]
theorem mem_fvEs (y : Name) (bound acc : List Name) : ∀ es : List Expr,
    y ∈ fvEs bound acc es ↔ y ∈ acc ∨ occEs y bound es
  | [] => by simp [fvEs, occEs]
  | e :: es => by simp only [fvEs, occEs, mem_fvEs y bound _ es, mem_fvE y bound acc e, or_assoc]
theorem mem_fvItems (y : Name) (bound acc : List Name) : ∀ items : List Item,
    y ∈ fvItems bound acc items ↔ y ∈ acc ∨ occItems y bound items
  | [] => by simp [fvItems, occItems]
  | .expr e :: rest => by simp only [fvItems, occItems, mem_fvItems y bound _ rest, mem_fvE y bound acc e, or_assoc]
  | .bind _ x e :: rest => by
    simp only [fvItems, occItems, mem_fvItems y (x :: bound) _ rest, mem_fvE y bound acc e, or_assoc]
  | .funcs fs :: rest => by
    simp only [fvItems, occItems, mem_fvItems y _ _ rest, mem_fvFs y _ acc fs, or_assoc]
theorem mem_fvFs (y : Name) (bound acc : List Name) : ∀ fs : List Func,
    y ∈ fvFs bound acc fs ↔ y ∈ acc ∨ occFs y bound fs
  | [] => by simp [fvFs, occFs]
  | fn :: fs => by simp only [fvFs, occFs, mem_fvFs y bound _ fs, mem_fvF y bound acc fn, or_assoc]
theorem mem_fvF (y : Name) (bound acc : List Name) : ∀ fn : Func,
    y ∈ fvF bound acc fn ↔ y ∈ acc ∨ occF y bound fn
  | .mk _ n ps _ body cs => by
    simp only [fvF, occF, mem_fvCatches y _ _ cs, mem_fvE y _ acc body, or_assoc]
theorem mem_fvCatches (y : Name) (bound acc : List Name) : ∀ cs : List Catch,
    y ∈ fvCatches bound acc cs ↔ y ∈ acc ∨ occCatches y bound cs
  | [] => by simp [fvCatches, occCatches]
  | .mk _ b :: cs => by simp only [fvCatches, occCatches, mem_fvCatches y bound _ cs, mem_fvE y bound acc b, or_assoc]
theorem mem_fvGuard (y : Name) (bound acc : List Name) : ∀ g : Guard,
    y ∈ fvGuard bound acc g ↔ y ∈ acc ∨ occGuard y bound g
  | .item _ _ b | .els b => by simp only [fvGuard, occGuard, mem_fvE y bound acc b]
  | .recd _ _ binds b => by simp only [fvGuard, occGuard, mem_fvE y _ acc b]
theorem mem_fvGuards (y : Name) (bound acc : List Name) : ∀ gs : List Guard,
    y ∈ fvGuards bound acc gs ↔ y ∈ acc ∨ occGuards y bound gs
  | [] => by simp [fvGuards, occGuards]
  | g :: gs => by simp only [fvGuards, occGuards, mem_fvGuards y bound _ gs, mem_fvGuard y bound acc g, or_assoc]
theorem mem_fvQuals (y : Name) (bound acc : List Name) : ∀ qs : List Qual,
    y ∈ fvQuals bound acc qs ↔ y ∈ acc ∨ occQuals y bound qs
  | [] => by simp [fvQuals, occQuals]
  | .filter e :: qs => by simp only [fvQuals, occQuals, mem_fvQuals y bound _ qs, mem_fvE y bound acc e, or_assoc]
  | .gen x coll :: qs => by
    simp only [fvQuals, occQuals, mem_fvQuals y (x :: bound) _ qs, mem_fvE y bound acc coll, or_assoc]
end

mutual
theorem nodup_fvE (bound acc : List Name) (h : acc.Nodup) : ∀ e : Expr, (fvE bound acc e).Nodup
  | .lit _ | .enumVal _ _ => by simpa [fvE] using h
  | .var x | .dimVar x => by
    simp only [fvE]
    split
    · exact h
    · exact nodup_addFv x acc h
  | .un _ a => by simp only [fvE]; exact nodup_fvE bound acc h a
  | .bin _ a b | .and a b | .or a b | .assign a b | .while a b | .doWhile a b => by
    simp only [fvE]; exact nodup_fvE bound _ (nodup_fvE bound acc h a) b
  | .cond c t e => by
    simp only [fvE]; exact nodup_fvE bound _ (nodup_fvE bound _ (nodup_fvE bound acc h c) t) e
  | .seq items => by simp only [fvE]; exact nodup_fvItems bound acc h items
  | .for i c s b => by
    simp only [fvE]
    exact nodup_fvE bound _ (nodup_fvE bound _ (nodup_fvE bound _ (nodup_fvE bound acc h i) c) s) b
  | .forIn x coll b => by simp only [fvE]; exact nodup_fvE _ _ (nodup_fvE bound acc h coll) b
  | .call f args => by simp only [fvE]; exact nodup_fvE bound _ (nodup_fvEs bound acc h args) f
  | .pipe l f args => by simp only [fvE]; exact nodup_fvE bound _ (nodup_fvE bound _ (nodup_fvEs bound acc h args) l) f
  | .builtin _ args | .arrLit _ args _ | .arrNew args _ | .record _ args | .tuple args | .enumRec _ _ args | .range args => by
    simp only [fvE]; exact nodup_fvEs bound acc h args
  | .lam fn => by simp only [fvE]; exact nodup_fvF bound acc h fn
  | .index a idx | .slice a idx => by simp only [fvE]; exact nodup_fvEs bound _ (nodup_fvE bound acc h a) idx
  | .field e _ => by simp only [fvE]; exact nodup_fvE bound acc h e
  | .matchE e gs => by simp only [fvE]; exact nodup_fvGuards bound _ (nodup_fvE bound acc h e) gs
  | .ifLet g e els => by
    simp only [fvE]; exact nodup_fvE bound _ (nodup_fvGuard bound _ (nodup_fvE bound acc h e) g) els
  | .listcomp body quals _ => by simp only [fvE]; exact nodup_fvE _ _ (nodup_fvQuals bound acc h quals) body
theorem nodup_fvEs (bound acc : List Name) (h : acc.Nodup) : ∀ es : List Expr, (fvEs bound acc es).Nodup
  | [] => by simpa [fvEs] using h
  | e :: es => by simp only [fvEs]; exact nodup_fvEs bound _ (nodup_fvE bound acc h e) es
theorem nodup_fvItems (bound acc : List Name) (h : acc.Nodup) : ∀ items : List Item, (fvItems bound acc items).Nodup
  | [] => by simpa [fvItems] using h
  | .expr e :: rest => by simp only [fvItems]; exact nodup_fvItems bound _ (nodup_fvE bound acc h e) rest
  | .bind _ x e :: rest => by simp only [fvItems]; exact nodup_fvItems _ _ (nodup_fvE bound acc h e) rest
  | .funcs fs :: rest => by simp only [fvItems]; exact nodup_fvItems _ _ (nodup_fvFs _ acc h fs) rest
theorem nodup_fvFs (bound acc : List Name) (h : acc.Nodup) : ∀ fs : List Func, (fvFs bound acc fs).Nodup
  | [] => by simpa [fvFs] using h
  | fn :: fs => by simp only [fvFs]; exact nodup_fvFs bound _ (nodup_fvF bound acc h fn) fs
theorem nodup_fvF (bound acc : List Name) (h : acc.Nodup) : ∀ fn : Func, (fvF bound acc fn).Nodup
  | .mk _ n ps _ body cs => by simp only [fvF]; exact nodup_fvCatches _ _ (nodup_fvE _ acc h body) cs
theorem nodup_fvCatches (bound acc : List Name) (h : acc.Nodup) : ∀ cs : List Catch, (fvCatches bound acc cs).Nodup
  | [] => by simpa [fvCatches] using h
  | .mk _ b :: cs => by simp only [fvCatches]; exact nodup_fvCatches bound _ (nodup_fvE bound acc h b) cs
theorem nodup_fvGuard (bound acc : List Name) (h : acc.Nodup) : ∀ g : Guard, (fvGuard bound acc g).Nodup
  | .item _ _ b | .els b => by simp only [fvGuard]; exact nodup_fvE bound acc h b
  | .recd _ _ binds b => by simp only [fvGuard]; exact nodup_fvE _ acc h b
theorem nodup_fvGuards (bound acc : List Name) (h : acc.Nodup) : ∀ gs : List Guard, (fvGuards bound acc gs).Nodup
  | [] => by simpa [fvGuards] using h
  | g :: gs => by simp only [fvGuards]; exact nodup_fvGuards bound _ (nodup_fvGuard bound acc h g) gs
theorem nodup_fvQuals (bound acc : List Name) (h : acc.Nodup) : ∀ qs : List Qual, (fvQuals bound acc qs).Nodup
  | [] => by simpa [fvQuals] using h
  | .filter e :: qs => by simp only [fvQuals]; exact nodup_fvQuals bound _ (nodup_fvE bound acc h e) qs
  | .gen x coll :: qs => by simp only [fvQuals]; exact nodup_fvQuals _ _ (nodup_fvE bound acc h coll) qs
end

end Never.Src
