import NeverModel.Lemmas.FfiArith
/-! structural lemmas for M-FFI: alignments, emitter lengths, the descriptor parse, and the
specification of the packing walk (`valueField`/`valueLoop`) against the C layout rule -/
namespace Never.Ffi

mutual
theorem cAlign_isAl : (t : FTy) → IsAl (cAlign t)
  | .prim p => by cases p <;> simp [cAlign, primAlign, primSize, IsAl]
  | .record fs => by simp only [cAlign]; exact cAlignF_isAl fs
theorem cAlignF_isAl : (fs : FTys) → IsAl (cAlignF fs)
  | .nil => by simp [cAlignF, IsAl]
  | .cons t ts => by simp only [cAlignF]; exact (cAlign_isAl t).max (cAlignF_isAl ts)
end

theorem cAlign_dvd_of_cons (t : FTy) (ts : FTys) (base : Nat) (h : cAlignF (.cons t ts) ∣ base) :
    cAlign t ∣ base ∧ cAlignF ts ∣ base := by
  have h1 := cAlign_isAl t
  have h2 := cAlignF_isAl ts
  simp only [cAlignF] at h
  constructor
  · exact Nat.dvd_trans (h1.dvd_of_le (h1.max h2) (Nat.le_max_left _ _)) h
  · exact Nat.dvd_trans (h2.dvd_of_le (h1.max h2) (Nat.le_max_right _ _)) h

theorem cEnd_ge : (fs : FTys) → (rel : Nat) → rel ≤ cEnd fs rel
  | .nil, rel => by simp [cEnd]
  | .cons t ts, rel => by
    simp only [cEnd]
    have := cEnd_ge ts (roundUp rel (cAlign t) + cSize t)
    have := roundUp_ge rel (cAlign t) (cAlign_isAl t).pos
    omega

theorem cEnd_le_cSize (fs : FTys) : cEnd fs 0 ≤ cSize (.record fs) := by
  simp only [cSize]
  exact roundUp_ge _ _ (cAlignF_isAl fs).pos

/-! ### the emitter: `total_count` is the number of codes written -/
mutual
theorem emitParam_len : (t : FTy) → (emitParam t).2 = (emitParam t).1.length
  | .prim p => by simp [emitParam]
  | .record fs => by
    have := emitList_len fs
    simp only [emitParam, List.length_cons]
    omega
theorem emitList_len : (fs : FTys) → (emitList fs).2 = (emitList fs).1.length
  | .nil => by simp [emitList]
  | .cons t ts => by
    have h1 := emitParam_len t
    have h2 := emitList_len ts
    simp only [emitList, List.length_append]
    omega
end

theorem emitParam_record (fs : FTys) :
    (emitParam (.record fs)).1 = .record fs.length (1 + (emitList fs).1.length) :: (emitList fs).1 := by
  simp [emitParam, emitList_len]

theorem emitList_cons (t : FTy) (ts : FTys) :
    (emitList (.cons t ts)).1 = (emitParam t).1 ++ (emitList ts).1 := by
  simp [emitList]

/-! ### `vm_execute_func_ffi_record_type` reads back what the emitter wrote -/
mutual
theorem recordType_emitParam : (t : FTy) → (ts : FTys) → (n : Nat) → (rest : List Desc) → (f : Nat) →
    (hf : (emitParam t).1.length + (emitList ts).1.length ≤ f) →
    (ih : ∀ f', (emitList ts).1.length ≤ f' → recordType f' n ((emitList ts).1 ++ rest) = some (ts, rest)) →
    recordType f (n + 1) ((emitParam t).1 ++ ((emitList ts).1 ++ rest)) = some (.cons t ts, rest)
  | .prim p, ts, n, rest, f, hf, ih => by
    simp only [emitParam, List.length_cons, List.length_nil] at hf
    obtain ⟨f, rfl⟩ : ∃ g, f = g + 1 := ⟨f - 1, by omega⟩
    simp only [emitParam, List.cons_append, List.nil_append, recordType]
    rw [ih f (by omega)]
  | .record fs, ts, n, rest, f, hf, ih => by
    rw [emitParam_record] at hf ⊢
    simp only [List.length_cons] at hf
    obtain ⟨f, rfl⟩ : ∃ g, f = g + 1 := ⟨f - 1, by omega⟩
    simp only [List.cons_append, recordType]
    rw [recordType_emitList fs ((emitList ts).1 ++ rest) f (by omega)]
    simp only []
    rw [ih f (by omega)]
theorem recordType_emitList : (fs : FTys) → (rest : List Desc) → (f : Nat) →
    (hf : (emitList fs).1.length ≤ f) →
    recordType f fs.length ((emitList fs).1 ++ rest) = some (fs, rest)
  | .nil, rest, f, _ => by
    cases f <;> simp [emitList, FTys.length, recordType]
  | .cons t ts, rest, f, hf => by
    rw [emitList_cons] at hf ⊢
    rw [List.length_append] at hf
    rw [List.append_assoc]
    exact recordType_emitParam t ts ts.length rest f hf
      (fun f' hf' => recordType_emitList ts rest f' hf')
end

/-! ### the struct buffer -/

theorem Buf.write_spec (b : Buf) (off n v : Nat) (h : off + n ≤ b.size) :
    ∃ b', b.write off n v = some b' ∧ b'.size = b.size ∧ (∀ i, i < off → b'.get i = b.get i) ∧
      readLE b'.get off n = v % 256 ^ n := by
  refine ⟨⟨b.size, fun i => if off ≤ i ∧ i < off + n then byteOf v (i - off) else b.get i⟩,
    by simp only [Buf.write, h, if_true], rfl, ?_, ?_⟩
  · intro i hi
    have : ¬(off ≤ i ∧ i < off + n) := by omega
    simp only [this, if_false]
  · have := readLE_write b.get off n v 0 n (by omega)
    simpa using this

/-- payload of a scalar value -/
def payload : FVal → Nat
  | .bool x => x | .int x => x | .long x => x | .float x => x | .double x => x
  | .char x => x | .string (some q) => q | .cptr q => q | _ => 0

/-- a well-typed scalar is stored as the `primSize p` little-endian bytes of its payload, except the nil string,
    which only sets the flag -/
theorem storePrim_eq (p : Prim) (v : FVal) (buf : Buf) (o : Nat) (hty : HasTy v (.prim p) = true) :
    (storePrim p v buf o =
      if NilFree v then (buf.write o (primSize p) (payload v)).map (·, false) else some (buf, true)) ∧
    (NilFree v = true → payload v < 256 ^ primSize p) := by
  cases p <;> cases v <;> simp only [HasTy, decide_eq_true_eq, Bool.false_eq_true] at hty
  case string.string q =>
    cases q with
    | none => exact ⟨rfl, nofun⟩
    | some q => exact ⟨rfl, fun _ => Nat.lt_of_lt_of_le (of_decide_eq_true hty) (by decide)⟩
  all_goals exact ⟨rfl, fun _ => Nat.lt_of_lt_of_le hty (by decide)⟩

theorem storePrim_spec (p : Prim) (v : FVal) (buf : Buf) (o : Nat) (hty : HasTy v (.prim p) = true)
    (hb : o + primSize p ≤ buf.size) :
    ∃ b' isNil, storePrim p v buf o = some (b', isNil) ∧ isNil = !NilFree v ∧ b'.size = buf.size ∧
      (∀ i, i < o → b'.get i = buf.get i) ∧
      (NilFree v = true → readLE b'.get o (primSize p) = payload v ∧ payload v < 256 ^ primSize p) := by
  obtain ⟨he, hp⟩ := storePrim_eq p v buf o hty
  rw [he]
  cases hn : NilFree v
  · exact ⟨buf, true, rfl, rfl, rfl, fun _ _ => rfl, nofun⟩
  · obtain ⟨b', h1, h2, h3, h4⟩ := Buf.write_spec buf o (primSize p) (payload v) hb
    exact ⟨b', false, by simp [h1], rfl, h2, h3, fun _ => ⟨by rw [h4, Nat.mod_eq_of_lt (hp hn)], hp hn⟩⟩

/-- a record member at running offset `base + rel`: the walk aligns to the C member offset, which is aligned for
the record's own members too, and the member ends `cSize` later -/
theorem record_frame (fs : FTys) (off : BitVec 32) (base rel : Nat) (hoff : off.toNat = base + rel)
    (hal : cAlign (.record fs) ∣ base)
    (hfit : base + roundUp rel (cAlign (.record fs)) + cSize (.record fs) < 2 ^ 32) :
    (align32 off (BitVec.ofNat 32 (elAlign (.record fs)))).toNat = base + roundUp rel (cAlign (.record fs)) ∧
    (add32 (align32 off (BitVec.ofNat 32 (elAlign (.record fs)))) (elSize (.record fs))).toNat
      = base + roundUp rel (cAlign (.record fs)) + cSize (.record fs) ∧
    cAlignF fs ∣ base + roundUp rel (cAlign (.record fs)) := by
  have ho := align32_base_add off base rel _ (cAlign_isAl (.record fs)) hoff hal (by omega)
  refine ⟨ho, ?_, Nat.dvd_add hal (roundUp_dvd rel _)⟩
  rw [add32_toNat _ _ (by rw [ho]; exact hfit), ho]

/-- what the packing walk guarantees about its result -/
structure VSpec (r : VRes) (rest : List Desc) (buf : Buf) (lo hi : Nat) (nf : Bool)
    (tr : List (Prim × Nat)) : Prop where
  ret : r.ret = !nf
  code : r.code = rest
  off : r.off.toNat = hi
  size : r.buf.size = buf.size
  frame : ∀ i, i < lo → r.buf.get i = buf.get i
  trace : nf = true → r.trace = tr

mutual
/-- one field: the walk stores it at `base + roundUp rel (alignof t)` — the C member offset — and
leaves `*offset` at its end; it consumes exactly the field's descriptor -/
theorem valueField_spec : (t : FTy) → (d : Desc) → (code rest : List Desc) →
    (hemit : (emitParam t).1 ++ rest = d :: code) → (v : FVal) → (hty : HasTy v t = true) →
    (base rel : Nat) → (buf : Buf) → (off : BitVec 32) → (hoff : off.toNat = base + rel) →
    (hal : cAlign t ∣ base) → (hb : base + roundUp rel (cAlign t) + cSize t ≤ buf.size) →
    (hs : buf.size < 2 ^ 32) →
    ∃ r, valueField t d v code buf off = some r ∧
      VSpec r rest buf (base + roundUp rel (cAlign t)) (base + roundUp rel (cAlign t) + cSize t)
        (NilFree v) (cLeaves t (base + roundUp rel (cAlign t)))
  | .prim p, d, code, rest, hemit, v, hty, base, rel, buf, off, hoff, hal, hb, hs => by
    simp only [emitParam, List.cons_append, List.nil_append, List.cons.injEq] at hemit
    obtain ⟨rfl, rfl⟩ := hemit
    have ho := align32_base_add off base rel _ (cAlign_isAl (.prim p)) hoff hal (by simp only [cSize] at hb; omega)
    simp only [cSize] at hb
    obtain ⟨b', isNil, h1, h2, h3, h4, _⟩ := storePrim_spec p v buf
      (align32 off (BitVec.ofNat 32 (elAlign (.prim p)))).toNat hty (by rw [ho]; exact hb)
    simp only [valueField, h1]
    refine ⟨_, rfl, ?_⟩
    constructor
    · exact h2
    · rfl
    · simp only [elSize, cSize]
      rw [add32_toNat _ _ (by rw [ho]; omega), ho]
    · exact h3
    · intro i hi; exact h4 i (by rw [ho]; exact hi)
    · intro hnf
      simp only [h2, hnf, Bool.not_true, Bool.false_eq_true, if_false, cLeaves, ho]
  | .record fs, d, code, rest, hemit, v, hty, base, rel, buf, off, hoff, hal, hb, hs => by
    rw [emitParam_record] at hemit
    simp only [List.cons_append, List.cons.injEq] at hemit
    obtain ⟨rfl, rfl⟩ := hemit
    have hsz := cEnd_le_cSize fs
    obtain ⟨ho, hoe, hdv⟩ := record_frame fs off base rel hoff hal (by omega)
    cases v with
    | record inner =>
      simp only [HasTy] at hty
      obtain ⟨r, hr, hspec⟩ := valueLoop_spec fs rest inner hty
        (base + roundUp rel (cAlign (.record fs))) 0 buf _ (by rw [ho]; rfl) hdv (by omega) hs
      simp only [valueField, hr]
      refine ⟨_, rfl, ?_⟩
      constructor
      · simpa [NilFree] using hspec.ret
      · exact hspec.code
      · exact hoe
      · exact hspec.size
      · intro i hi; exact hspec.frame i (by omega)
      · intro hnf
        simp only [NilFree] at hnf
        simpa [cLeaves] using hspec.trace hnf
    | nilrec =>
      simp only [valueField]
      have h0 : (1 + (emitList fs).1.length = 0) = False := by simp
      simp only [h0, if_false]
      refine ⟨_, rfl, ?_⟩
      constructor
      · simp [NilFree]
      · simp
      · exact hoe
      · rfl
      · intro _ _; rfl
      · intro hnf; simp [NilFree] at hnf
    | _ => simp [HasTy] at hty

/-- the loop over the members of a struct based at `base`, the previous member having ended at
relative offset `rel` -/
theorem valueLoop_spec : (fs : FTys) → (rest : List Desc) → (vs : FVals) → (hty : HasTys vs fs = true) →
    (base rel : Nat) → (buf : Buf) → (off : BitVec 32) → (hoff : off.toNat = base + rel) →
    (hal : cAlignF fs ∣ base) → (hb : base + cEnd fs rel ≤ buf.size) → (hs : buf.size < 2 ^ 32) →
    ∃ r, valueLoop fs fs.length vs ((emitList fs).1 ++ rest) buf off = some r ∧
      VSpec r rest buf (base + rel) (base + cEnd fs rel) (NilFreeL vs) (cLeavesF fs base rel)
  | .nil, rest, vs, hty, base, rel, buf, off, hoff, hal, hb, hs => by
    cases vs <;> simp only [HasTys, Bool.false_eq_true] at hty
    simp only [FTys.length, valueLoop, emitList, List.nil_append]
    refine ⟨_, rfl, ?_⟩
    constructor <;> simp [NilFreeL, cEnd, hoff, cLeavesF]
  | .cons t ts, rest, vs, hty, base, rel, buf, off, hoff, hal, hb, hs => by
    cases vs with
    | nil => simp [HasTys] at hty
    | cons v vs =>
      simp only [HasTys, Bool.and_eq_true] at hty
      obtain ⟨hal1, hal2⟩ := cAlign_dvd_of_cons t ts base hal
      simp only [cEnd] at hb
      have hge := cEnd_ge ts (roundUp rel (cAlign t) + cSize t)
      have hrg := roundUp_ge rel (cAlign t) (cAlign_isAl t).pos
      rw [emitList_cons, List.append_assoc]
      obtain ⟨d, code, hdc⟩ : ∃ d code, (emitParam t).1 ++ ((emitList ts).1 ++ rest) = d :: code := by
        cases t with
        | prim p => exact ⟨.prim p, _, rfl⟩
        | record fs => exact ⟨_, _, by rw [emitParam_record]; rfl⟩
      obtain ⟨r1, hr1, s1⟩ := valueField_spec t d code ((emitList ts).1 ++ rest) hdc v hty.1 base rel buf off
        hoff hal1 (by omega) hs
      obtain ⟨r2, hr2, s2⟩ := valueLoop_spec ts rest vs hty.2 base (roundUp rel (cAlign t) + cSize t)
        r1.buf r1.off (by rw [s1.off]; omega) hal2 (by rw [s1.size]; omega) (by rw [s1.size]; exact hs)
      rw [hdc]
      simp only [FTys.length, valueLoop, hr1, s1.code, hr2]
      refine ⟨_, rfl, ?_⟩
      constructor
      · simp [s1.ret, s2.ret, NilFreeL, Bool.not_and]
      · exact s2.code
      · simp only [cEnd]; rw [s2.off]
      · rw [s2.size, s1.size]
      · intro i hi
        rw [s2.frame i (by omega), s1.frame i (by omega)]
      · intro hnf
        simp only [NilFreeL, Bool.and_eq_true] at hnf
        simp only [cLeavesF, s1.trace hnf.1, s2.trace hnf.2]
end

end Never.Ffi
