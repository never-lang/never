import NeverModel.Lemmas.CheckPlug
set_option linter.unusedVariables false
/-! # whole-program contexts: a program with an expression-shaped or a function-shaped hole -/
namespace Never.Tc

theorem nonEmptyUnit_app (fpre : FuncList) (f : Func) (fpost : FuncList) :
    nonEmptyUnit (fpre.app (.cons f fpost)) = .ok () := by
  cases fpre <;> rfl

theorem check_eq (p : Prog) :
    check p = globalEnv p.decls >>= fun Γ => nonEmptyUnit p.funcs >>= fun _ =>
      declFuncs Γ p.funcs >>= fun q => tcBodies q.1 p.funcs q.2 := by
  simp only [check]

/-- a program with one expression-shaped hole: the declarations, the top-level functions around
the one that contains the hole, where in that function the hole is (body or a catch clause), and
the frames from there down to the hole (outermost first) -/
structure ProgCtx where
  decls : List Decl
  fpre : FuncList
  h : FuncHole
  fpost : FuncList
  frames : List Frame

def ProgCtx.plug (P : ProgCtx) (e : Expr) : Prog :=
  ⟨P.decls, P.fpre.app (.cons (P.h.plug (plugFrames P.frames e)) P.fpost)⟩

/-- the symbol table in force at the hole, if everything the checker visits BEFORE the hole is
free of errors; otherwise the error it stops with -/
def ProgCtx.holeEnv (P : ProgCtx) : Except Diag Env := do
  let Γ ← globalEnv P.decls
  let (Γf, s) ← runEnv Γ P.fpre (P.h.plug default) P.fpost
  P.h.pre Γf s
  framesEnv P.frames Γf

theorem framesEnv_append : (Fs Gs : List Frame) → (Γ : Env) →
    framesEnv (Fs ++ Gs) Γ = framesEnv Fs Γ >>= framesEnv Gs
  | [], _, _ => rfl
  | F :: Fs, Gs, Γ => by
    simp only [List.cons_append, framesEnv, bind_assoc]
    exact congrArg _ (funext (framesEnv_append Fs Gs))

/-- more frames below the hole: the table is computed from the one at the old hole -/
theorem ProgCtx.holeEnv_append (P : ProgCtx) (Gs : List Frame) :
    ProgCtx.holeEnv { P with frames := P.frames ++ Gs } = P.holeEnv >>= framesEnv Gs := by
  simp only [ProgCtx.holeEnv, framesEnv_append, bind_assoc]

theorem runEnv_plug (Γ : Env) (fpre fpost : FuncList) (h : FuncHole) (e e' : Expr) :
    runEnv Γ fpre (h.plug e) fpost = runEnv Γ fpre (h.plug e') fpost := by
  have : ∀ Γ', declFuncs Γ' (.cons (h.plug e) fpost) = declFuncs Γ' (.cons (h.plug e') fpost) :=
    fun Γ' => declFuncs_plug h e e' fpost Γ'
  simp only [runEnv, this, FuncHole.plug_name]

/-- if what the checker does before the hole, then the hole, fails, the program is refused with
that diagnostic -/
theorem ProgCtx.plug_fails (P : ProgCtx) (e : Expr) (d : Diag)
    (h : (P.holeEnv >>= fun Γ' => tc Γ' e) = .error d) : check (P.plug e) = .error d := by
  rw [check_eq]
  simp only [ProgCtx.holeEnv, ProgCtx.plug, bind_assoc] at h ⊢
  refine bind_error_mono h fun Γ _ h => ?_
  rw [nonEmptyUnit_app, bind_ok]
  apply run_fails
  rw [runEnv_plug Γ P.fpre P.fpost P.h _ default]
  exact bind_error_mono h fun ⟨Γf, s⟩ _ h => FuncHole.plug_fails Γf s P.h _ d
    (bind_error_mono h fun _ _ h => frames_plug_fails P.frames Γf e d h)

theorem ProgCtx.plug_error (P : ProgCtx) (Γ' : Env) (e : Expr) (d : Diag)
    (henv : P.holeEnv = .ok Γ') (he : tc Γ' e = .error d) : check (P.plug e) = .error d :=
  P.plug_fails e d (by rw [henv]; exact he)

theorem ProgCtx.plug_prefix (P : ProgCtx) (e : Expr) (d : Diag)
    (henv : P.holeEnv = .error d) : check (P.plug e) = .error d :=
  P.plug_fails e d (bind_error henv)

/-- an expression that is rejected in every symbol table is rejected in every program context,
whatever surrounds it (either by itself or because something before it already was) -/
theorem ProgCtx.never_accepts (P : ProgCtx) (e : Expr)
    (hbad : ∀ Γ, ∃ d, tc Γ e = .error d) : ∃ d, check (P.plug e) = .error d := by
  cases h : P.holeEnv with
  | error d => exact ⟨d, P.plug_prefix e d h⟩
  | ok Γ' =>
    obtain ⟨d, hd⟩ := hbad Γ'
    exact ⟨d, P.plug_error Γ' e d h hd⟩

/-! ## function-shaped holes -/

/-- where a whole function can stand: at top level, as an item of a block (inside a run of
functions), or as a literal `let func …`; the latter two anywhere in a program -/
inductive FuncCtx
  | top (decls : List Decl) (fpre fpost : FuncList)
  | nested (P : ProgCtx) (ln : Ln) (pre : SeqList) (fpre fpost : FuncList) (post : SeqList)
  | lit (P : ProgCtx)

def FuncCtx.plug : FuncCtx → Func → Prog
  | .top ds fpre fpost, f => ⟨ds, fpre.app (.cons f fpost)⟩
  | .nested P ln pre fpre fpost post, f =>
    P.plug (.seq ln (pre.app (.cons (.funcs (fpre.app (.cons f fpost))) post)))
  | .lit P, f => P.plug (.funcLit f)

/-- the function's own table and resolved signature, if everything visited before its catch
clauses is free of errors -/
def FuncCtx.env : FuncCtx → Func → Except Diag (Env × Sig)
  | .top ds fpre fpost, f => do
    let Γ ← globalEnv ds
    runEnv Γ fpre f fpost
  | .nested P _ pre fpre fpost _, f => do
    let Γ ← P.holeEnv
    let Γ1 ← seqEnv Γ.push pre
    runEnv Γ1 fpre f fpost
  | .lit P, f => do
    let Γ ← P.holeEnv
    let s ← declFunc Γ f.name f.params f.rc f.rty
    pure (funcEnv Γ f.name s, s)

theorem FuncCtx.plug_fails (C : FuncCtx) (f : Func) (d : Diag)
    (h : (C.env f >>= fun p => tcRest p.1 p.2 f) = .error d) : check (C.plug f) = .error d := by
  cases C with
  | top ds fpre fpost =>
    rw [check_eq]
    simp only [FuncCtx.env, FuncCtx.plug, bind_assoc] at h ⊢
    refine bind_error_mono h fun Γ _ h => ?_
    rw [nonEmptyUnit_app, bind_ok]
    exact run_fails Γ fpre f fpost d h
  | nested P ln pre fpre fpost post =>
    simp only [FuncCtx.env, bind_assoc] at h
    refine P.plug_fails _ d (bind_error_mono h fun Γ _ h => ?_)
    simp only [tc]
    exact bind_error (tcSeq_app pre _ _ d (bind_error_mono h fun Γ1 _ h =>
      tcSeq_funcs Γ1 _ post d (run_fails Γ1 fpre f fpost d h)))
  | lit P =>
    simp only [FuncCtx.env, bind_assoc, pure_bind] at h
    refine P.plug_fails _ d (bind_error_mono h fun Γ _ h => ?_)
    simp only [tc]
    exact bind_error_mono h fun s _ h => bind_error h

theorem FuncCtx.plug_error (C : FuncCtx) (f : Func) (Γf : Env) (s : Sig) (d : Diag)
    (henv : C.env f = .ok (Γf, s)) (hf : tcRest Γf s f = .error d) : check (C.plug f) = .error d :=
  C.plug_fails f d (by rw [henv]; exact hf)

end Never.Tc
