import NeverModel.Lemmas.VmNoWr
set_option linter.unusedSimpArgs false
/-! write footprint of handlers: `Foot lo f` — `f` leaves every stack slot below `lo` alone, whatever the machine —, and
`FootAt s lo f` — the same when started with `sp = s` (needed where the written index is read from `sp`: `pushAddr`, `wrSlot (← getSp)`).
The combinators of `FootAt` mirror those of `EffAt` (Lemmas/VmEffect2, VmEffectLoops) and reuse its `sp` bookkeeping. -/
namespace Never.Vm
open Never Never.Num

def Foot {α} (lo : Int) (f : M α) : Prop :=
  ∀ vm a vm', f.run vm = .ok (a, vm') → ∀ j, j < lo → slot vm' j = slot vm j

theorem Foot.bind {α β} {lo : Int} {f : M α} {g : α → M β} (hf : Foot lo f) (hg : ∀ a, Foot lo (g a)) : Foot lo (f >>= g) := by
  intro vm b vm'' h j hj
  obtain ⟨a, vm', h1, h2⟩ := (run_bind_ok f g vm vm'' b).mp h
  rw [hg a vm' b vm'' h2 j hj, hf vm a vm' h1 j hj]

theorem Foot.of_nowr {α} {lo : Int} {f : M α} (h : NoWr f) : Foot lo f := by
  intro vm a vm' hr j _
  unfold slot; rw [h vm a vm' hr]

theorem slot_setIfInBounds_ne (vm : Vm) (i : Nat) (s : Slot) (j : Int) (hne : j ≠ (i : Int)) :
    slot { vm with stack := vm.stack.setIfInBounds i s } j = slot vm j := by
  unfold slot
  by_cases hj : j < 0
  · simp [hj]
  · simp only [hj, if_false]
    have : i ≠ j.toNat := by omega
    simp [Array.getElem?_setIfInBounds, this]

theorem Foot.wrSlot (lo : Int) (i : Int) (s : Slot) (h : lo ≤ i) : Foot lo (Vm.wrSlot i s) := by
  intro vm a vm' hr j hj
  unfold Vm.wrSlot at hr
  obtain ⟨v0, v0', h3, h4⟩ := (run_bind_ok _ _ _ _ _).mp hr
  simp [get, getThe, MonadStateOf.get, StateT.get, StateT.run, Pure.pure, Except.pure] at h3
  obtain ⟨e1, e2⟩ := h3
  rw [← e1, ← e2] at h4
  split at h4
  · simp [Vm.crash, throw, throwThe, MonadExceptOf.throw, StateT.run, StateT.lift, liftM, monadLift, MonadLift.monadLift, Except.bind, Bind.bind] at h4
  · rename_i hb
    simp [set, StateT.set, StateT.run, Pure.pure, Except.pure] at h4
    rw [← h4]
    exact slot_setIfInBounds_ne vm i.toNat s j (by omega)

/-- automation for `Foot` goals (blocks that keep `sp`: reads, heap work, `wrSlot` at an index that is a known expression);
syntax-directed, linear in the size of the block -/
syntax "footk" : tactic
macro_rules
  | `(tactic| footk) => `(tactic|
      first
      | exact Foot.wrSlot _ _ _ (by omega)
      | (with_reducible refine Foot.of_nowr ?_; nowr1)
      | with_reducible apply_assumption (exfalso := false)
      | (with_reducible refine Foot.bind ?hf (fun _ => ?hg); (case hf => footk); (case hg => footk))
      | (split <;> footk)
      | (dsimp only; footk))

/-- `unpackLoop sp …` writes `sp … sp + n − 1` -/
theorem foot_unpackLoop (lo sp : Int) (fs : List Nat) (size : Nat) (h : lo ≤ sp) : ∀ i, Foot lo (unpackLoop sp fs size i) := by
  intro i
  induction i with
  | zero => unfold unpackLoop; footk
  | succ i ih => unfold unpackLoop; footk

/-- started with `sp = s`, a completed run of `f` leaves every stack slot below `lo` alone -/
def FootAt {α} (s lo : Int) (f : M α) : Prop :=
  ∀ vm a vm', vm.sp = s → f.run vm = .ok (a, vm') → ∀ j, j < lo → slot vm' j = slot vm j

theorem FootAt.of_foot {α} {s lo : Int} {f : M α} (h : Foot lo f) : FootAt s lo f := fun vm a vm' _ hr => h vm a vm' hr

theorem FootAt.keeps_bind {α β} {s lo : Int} {f : M α} {g : α → M β} (hk : KeepsSp f) (hf : Foot lo f) (hg : ∀ a, FootAt s lo (g a)) :
    FootAt s lo (f >>= g) := by
  intro vm b vm'' hs h j hj
  obtain ⟨a, vm', h1, h2⟩ := (run_bind_ok f g vm vm'' b).mp h
  obtain ⟨a1, _, _, _⟩ := hk vm a vm' h1
  rw [hg a vm' b vm'' (by omega) h2 j hj, hf vm a vm' h1 j hj]

theorem FootAt.getSp_bind {β} {s lo : Int} {g : Int → M β} (hg : FootAt s lo (g s)) : FootAt s lo (getSp >>= g) := by
  intro vm b vm'' hs h
  obtain ⟨a, vm', h1, h2⟩ := (run_bind_ok getSp g vm vm'' b).mp h
  obtain ⟨rfl, rfl⟩ := getSp_run _ _ _ h1
  subst hs
  exact hg _ _ _ rfl h2

theorem setSp_slot (v : Int) (vm : Vm) (a : Unit) (vm' : Vm) (h : (Vm.setSp v).run vm = .ok (a, vm')) : vm'.stack = vm.stack := by
  simp [Vm.setSp, modify, modifyGet, MonadStateOf.modifyGet, StateT.modifyGet, StateT.run, pure, Except.pure] at h
  obtain ⟨_, rfl⟩ := h; rfl

/-- `sp` is set to `v`; the rest is judged from there -/
theorem FootAt.setSp_then {β} (s lo v : Int) {g : PUnit → M β} (hg : ∀ a, FootAt v lo (g a)) : FootAt s lo (Vm.setSp v >>= g) := by
  intro vm b vm'' hs h j hj
  obtain ⟨a, vm', h1, h2⟩ := (run_bind_ok _ g vm vm'' b).mp h
  obtain ⟨t1, _⟩ := keeps_setSp_run _ _ _ _ h1
  rw [hg a vm' b vm'' t1 h2 j hj]
  unfold slot; rw [setSp_slot _ _ _ _ h1]



theorem FootAt.pushAddr (s lo : Int) (a : Nat) (h : lo ≤ s + 1) : FootAt s lo (Vm.pushAddr a) := by
  intro vm u vm' hs hr j hj
  obtain ⟨_, _, rfl⟩ := pushP_eq (pushAddr_run hr)
  exact slot_setIfInBounds_ne { vm with sp := vm.sp + 1 } (vm.sp + 1).toNat (.addr a) j (by omega)

theorem FootAt.mov_bind {α β} {s d1 lo : Int} {f : M α} {g : α → M β} (hm : MovAt s d1 f) (hf : FootAt s lo f)
    (hg : ∀ a, FootAt (s + d1) lo (g a)) : FootAt s lo (f >>= g) := by
  intro vm b vm'' hs h j hj
  obtain ⟨a, vm', h1, h2⟩ := (run_bind_ok f g vm vm'' b).mp h
  obtain ⟨a1, _, _, _⟩ := hm vm a vm' hs h1
  rw [hg a vm' b vm'' a1 h2 j hj, hf vm a vm' hs h1 j hj]

theorem FootAt.popOpt_bind {α β} {s lo : Int} {n : Nat} {f : M (Option α)} {g : Option α → M β} (hp : PopOpt s n f) (hf : Foot lo f)
    (hnone : ∀ vm b vm', (g none).run vm = .ok (b, vm') → vm' = vm)
    (hsome : ∀ x, FootAt (s - (n : Int)) lo (g (some x))) : FootAt s lo (f >>= g) := by
  intro vm b vm'' hs h j hj
  obtain ⟨r, vm', h1, h2⟩ := (run_bind_ok f g vm vm'' b).mp h
  obtain ⟨_, _, _, a4, _⟩ := hp vm r vm' hs h1
  cases r with
  | none =>
    have := hnone vm' b vm'' h2
    subst this
    exact hf vm _ _ h1 j hj
  | some x =>
    rw [hsome x vm' b vm'' (a4 rfl) h2 j hj, hf vm _ _ h1 j hj]

theorem FootAt.bool_bind {β} {s lo : Int} {f : M Bool} {g : Bool → M β} (hk : KeepsSp f) (hf : Foot lo f)
    (ht : FootAt s lo (g true)) (hfalse : ∀ vm b vm', (g false).run vm = .ok (b, vm') → vm' = vm) : FootAt s lo (f >>= g) := by
  intro vm b vm'' hs h j hj
  obtain ⟨r, vm', h1, h2⟩ := (run_bind_ok f g vm vm'' b).mp h
  obtain ⟨a1, _, _, _⟩ := hk vm r vm' h1
  cases r with
  | true => rw [ht vm' b vm'' (by omega) h2 j hj, hf vm _ _ h1 j hj]
  | false =>
    have := hfalse vm' b vm'' h2
    subst this
    exact hf vm _ _ h1 j hj

theorem FootAt.boolmov_bind {β} {s lo : Int} {n : Nat} {f : M Bool} {g : Bool → M β}
    (hp : ∀ vm r vm', vm.sp = s → f.run vm = .ok (r, vm') →
      vm'.fp = vm.fp ∧ vm'.pp = vm.pp ∧ vm'.stackSize = vm.stackSize ∧ (r = true → vm'.sp = s - (n : Int)) ∧ (r = false → vm'.running = 2))
    (hf : Foot lo f) (ht : FootAt (s - (n : Int)) lo (g true)) (hfalse : ∀ vm b vm', (g false).run vm = .ok (b, vm') → vm' = vm) :
    FootAt s lo (f >>= g) := by
  intro vm b vm'' hs h j hj
  obtain ⟨r, vm', h1, h2⟩ := (run_bind_ok f g vm vm'' b).mp h
  obtain ⟨_, _, _, a4, _⟩ := hp vm r vm' hs h1
  cases r with
  | true => rw [ht vm' b vm'' (a4 rfl) h2 j hj, hf vm _ _ h1 j hj]
  | false =>
    have := hfalse vm' b vm'' h2
    subst this
    exact hf vm _ _ h1 j hj

/-- automation for `FootAt` goals (same search as `eff`), syntax-directed -/
syntax "foot" : tactic
macro_rules
  | `(tactic| foot) => `(tactic|
      first
      | exact FootAt.pushAddr _ _ _ (by omega)
      | exact FootAt.of_foot (Foot.wrSlot _ _ _ (by omega))
      | (with_reducible refine FootAt.of_foot (Foot.of_nowr ?_); nowr1)
      | (with_reducible refine FootAt.getSp_bind ?hg; (case hg => foot))
      | (with_reducible refine FootAt.setSp_then _ _ _ (fun _ => ?hg); (case hg => foot))
      | (with_reducible refine FootAt.keeps_bind ?hk ?hf (fun _ => ?hg); (case hk => keeps); (case hf => footk); (case hg => foot))
      | (split <;> foot)
      | (dsimp only; foot))

/-- `allocLoop n` pushes: it writes only above the top of stack -/
theorem allocLoop_foot (n : Nat) : ∀ s lo, lo ≤ s + 1 → FootAt s lo (allocLoop n) := by
  induction n with
  | zero => intro s lo _; unfold allocLoop; foot
  | succ n ih =>
    intro s lo h
    unfold allocLoop
    refine FootAt.keeps_bind (by keeps) (by footk) (fun a => ?_)
    refine FootAt.mov_bind (pushAddr_mov _ _) (FootAt.pushAddr _ _ _ h) (fun _ => ih _ _ (by omega))

/-- selects the handler of a concrete opcode inside `exec` and runs the footprint automation -/
macro "exec_foot" h:ident : tactic => `(tactic|
  (unfold exec
   simp only [$h:ident, binOpOf, unOpOf, convOf, nilCmpOf, strAddOf, arrOpOf, mkArrayElem]
   foot))

macro "exec_fsel" h:ident : tactic => `(tactic|
  (unfold exec
   simp only [$h:ident, binOpOf, unOpOf, convOf, nilCmpOf, strAddOf, arrOpOf, mkArrayElem]
   refine FootAt.getSp_bind ?_))

end Never.Vm
