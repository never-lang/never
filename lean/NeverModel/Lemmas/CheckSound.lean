import NeverModel.Lemmas.CheckCtx
set_option linter.unusedSimpArgs false
set_option linter.unusedVariables false
/-! # a declarative typing relation for the scalar expression fragment, and soundness of `tc`

The operator rules are stated from the promotion order int < long < float < double (`rank`),
not from the checker's tables (`convBasic`, `binTy`), so `tc_sound_frag` says something. -/
namespace Never.Tc

def scalar : Ty → Bool
  | .bool | .int | .long | .float | .double | .char | .string => true
  | _ => false

/-- the promotion order of the numeric kinds -/
def rank : Ty → Option Nat
  | .int => some 0
  | .long => some 1
  | .float => some 2
  | .double => some 3
  | _ => none

/-- `t` is the larger of the numeric kinds `a`, `b` -/
def NumJoin (a b t : Ty) : Prop :=
  ∃ ra rb, rank a = some ra ∧ rank b = some rb ∧ rank t = some (max ra rb)

def intLongK : Ty → Bool
  | .int | .long => true
  | _ => false

/-- what may be concatenated to a string -/
def stringable : Ty → Bool
  | .string | .int | .long | .float | .double | .char => true
  | _ => false

def BinOp.isArith : BinOp → Bool
  | .add | .sub | .mul | .div => true
  | _ => false
def BinOp.isOrder : BinOp → Bool
  | .lt | .gt | .lte | .gte => true
  | _ => false
def BinOp.isEq : BinOp → Bool
  | .eq | .neq => true
  | _ => false
def BinOp.isLogic : BinOp → Bool
  | .and | .or => true
  | _ => false
def BinOp.isBits : BinOp → Bool
  | .band | .bor | .bxor | .shl | .shr => true
  | _ => false

/-- operator rules of the language on scalar operands -/
inductive BinOk : BinOp → Ty → Ty → Ty → Prop
  /-- `+ - * /` on numbers: the operands are promoted to the larger kind -/
  | arith (op : BinOp) (a b t : Ty) : op.isArith = true → NumJoin a b t → BinOk op a b t
  /-- `+` with a string on one side and a string, number or char on the other -/
  | concatL (b : Ty) : stringable b = true → BinOk .add .string b .string
  | concatR (a : Ty) : stringable a = true → BinOk .add a .string .string
  /-- `%` on int/long -/
  | modulo (a b t : Ty) : intLongK a = true → intLongK b = true → NumJoin a b t → BinOk .mod a b t
  /-- `< > <= >=` on numbers (after promotion) and on chars -/
  | order (op : BinOp) (a b t : Ty) : op.isOrder = true → NumJoin a b t → BinOk op a b .bool
  | orderChar (op : BinOp) : op.isOrder = true → BinOk op .char .char .bool
  /-- `== !=` on numbers (after promotion), bools, chars, strings -/
  | equalNum (op : BinOp) (a b t : Ty) : op.isEq = true → NumJoin a b t → BinOk op a b .bool
  | equalBool (op : BinOp) : op.isEq = true → BinOk op .bool .bool .bool
  | equalChar (op : BinOp) : op.isEq = true → BinOk op .char .char .bool
  | equalString (op : BinOp) : op.isEq = true → BinOk op .string .string .bool
  /-- `&& ||` -/
  | logic (op : BinOp) : op.isLogic = true → BinOk op .bool .bool .bool
  /-- bitwise operators and shifts on int/long -/
  | bits (op : BinOp) (a b t : Ty) : op.isBits = true → intLongK a = true → intLongK b = true →
      NumJoin a b t → BinOk op a b t

inductive UnOk : UnOp → Ty → Ty → Prop
  | neg (a : Ty) : (rank a).isSome = true → UnOk .neg a a
  | not : UnOk .not .bool .bool
  | bnot (a : Ty) : intLongK a = true → UnOk .bnot a a

/-- Γ ⊢ e : t for the fragment -/
inductive HasType (Γ : Env) : Expr → Ty → Prop
  | litBool (ln : Ln) : HasType Γ (.litBool ln) .bool
  | litInt (ln : Ln) : HasType Γ (.litInt ln) .int
  | litLong (ln : Ln) : HasType Γ (.litLong ln) .long
  | litFloat (ln : Ln) : HasType Γ (.litFloat ln) .float
  | litDouble (ln : Ln) : HasType Γ (.litDouble ln) .double
  | litChar (ln : Ln) : HasType Γ (.litChar ln) .char
  | litString (ln : Ln) : HasType Γ (.litString ln) .string
  | id (ln : Ln) (x : String) (ent : Entry) (t : Ty) :
      Γ.lookup x = some ent → (idComb x ent).ct = .val t → HasType Γ (.id ln x) t
  | un (ln : Ln) (op : UnOp) (e : Expr) (a t : Ty) :
      HasType Γ e a → UnOk op a t → HasType Γ (.un ln op e) t
  | bin (ln : Ln) (op : BinOp) (l r : Expr) (a b t : Ty) :
      HasType Γ l a → HasType Γ r b → BinOk op a b t → HasType Γ (.bin ln op l r) t
  | sup (ln : Ln) (e : Expr) (t : Ty) : HasType Γ e t → HasType Γ (.sup ln e) t
  /-- both branches of a conditional have the SAME kind (no promotion between them) -/
  | cond (ln : Ln) (c a b : Expr) (t : Ty) :
      HasType Γ c .bool → HasType Γ a t → HasType Γ b t → HasType Γ (.cond ln c a b) t
  | while_ (ln : Ln) (c b : Expr) (t : Ty) :
      HasType Γ c .bool → HasType Γ b t → HasType Γ (.while_ ln c b) .int

/-- the fragment, syntactically -/
inductive Frag : Expr → Prop
  | litBool (ln : Ln) : Frag (.litBool ln)
  | litInt (ln : Ln) : Frag (.litInt ln)
  | litLong (ln : Ln) : Frag (.litLong ln)
  | litFloat (ln : Ln) : Frag (.litFloat ln)
  | litDouble (ln : Ln) : Frag (.litDouble ln)
  | litChar (ln : Ln) : Frag (.litChar ln)
  | litString (ln : Ln) : Frag (.litString ln)
  | id (ln : Ln) (x : String) : Frag (.id ln x)
  | un (ln : Ln) (op : UnOp) (e : Expr) : Frag e → Frag (.un ln op e)
  | bin (ln : Ln) (op : BinOp) (l r : Expr) : Frag l → Frag r → Frag (.bin ln op l r)
  | sup (ln : Ln) (e : Expr) : Frag e → Frag (.sup ln e)
  | cond (ln : Ln) (c a b : Expr) : Frag c → Frag a → Frag b → Frag (.cond ln c a b)
  | while_ (ln : Ln) (c b : Expr) : Frag c → Frag b → Frag (.while_ ln c b)

/-- every visible name is a variable of scalar type -/
def ScalarEnv (Γ : Env) : Prop :=
  ∀ x ent, Γ.lookup x = some ent → ∃ t, (idComb x ent).ct = .val t ∧ scalar t = true

theorem convBasic_join {a b t : Ty} (h : convBasic a b = some t) : NumJoin a b t := by
  unfold convBasic at h
  split at h <;> cases h <;> exact ⟨_, _, rfl, rfl, rfl⟩

theorem intLong_join {a b t : Ty} (h : intLong a b = some t) :
    intLongK a = true ∧ intLongK b = true ∧ NumJoin a b t := by
  unfold intLong at h
  split at h <;> cases h <;> exact ⟨rfl, rfl, ⟨_, _, rfl, rfl, rfl⟩⟩

theorem convEnum_scalar {a b : Ty} (ha : scalar a = true) (hb : scalar b = true) : convEnum a b = false := by
  unfold convEnum
  split
  · cases hb
  · cases ha
  · cases ha
  · rfl

theorem NumJoin.scalar {a b t : Ty} (h : NumJoin a b t) : scalar t = true := by
  obtain ⟨_, _, _, _, h⟩ := h
  cases t <;> first | rfl | cases h

theorem isNum_stringable {t : Ty} (h : (isNum t || (match t with | .char => true | _ => false)) = true) :
    stringable t = true := by
  cases t <;> first | rfl | cases h

theorem convString_concat {op : BinOp} {a b : Ty} (h : (op == .add && convString a b) = true) :
    BinOk op a b .string := by
  simp only [Bool.and_eq_true, beq_iff_eq] at h
  obtain ⟨rfl, h⟩ := h
  unfold convString at h
  split at h
  · exact .concatL _ rfl
  · exact .concatL _ (isNum_stringable h)
  · exact .concatR _ (isNum_stringable h)
  · cases h

theorem binTy_scalar_sound (op : BinOp) (a b t : Ty) (ha : scalar a = true) (hb : scalar b = true)
    (h : binTy op a b = some t) : BinOk op a b t ∧ scalar t = true := by
  have he := convEnum_scalar ha hb
  have arith {op t} (hop : op.isArith = true) (hc : convBasic a b = some t) :
      BinOk op a b t ∧ scalar t = true :=
    ⟨.arith _ _ _ _ hop (convBasic_join hc), (convBasic_join hc).scalar⟩
  have bits {op t} (hop : op.isBits = true) (hc : intLong a b = some t) :
      BinOk op a b t ∧ scalar t = true :=
    have ⟨h1, h2, h3⟩ := intLong_join hc
    ⟨.bits _ _ _ _ hop h1 h2 h3, h3.scalar⟩
  cases op with
  | add | sub =>
    simp only [binTy, he, Bool.false_eq_true, ↓reduceIte] at h
    split at h
    · cases h
      exact arith rfl ‹_›
    · split at h
      · cases h
        exact ⟨convString_concat ‹_›, rfl⟩
      · split at h
        · cases ha
        · cases h
  | mul =>
    simp only [binTy, he, Bool.false_eq_true, ↓reduceIte] at h
    split at h
    · cases h
      exact arith rfl ‹_›
    · split at h
      · cases ha
      · cases hb
      · cases h
  | div =>
    simp only [binTy, he, Bool.false_eq_true, ↓reduceIte] at h
    split at h
    · cases h
      exact arith rfl ‹_›
    · cases h
  | mod =>
    simp only [binTy, he, Bool.false_eq_true, ↓reduceIte] at h
    split at h
    · cases h
      rename_i hc
      have ⟨h1, h2, h3⟩ := intLong_join hc
      exact ⟨.modulo _ _ _ h1 h2 h3, h3.scalar⟩
    · cases h
  | band | bor | bxor | shl | shr =>
    simp only [binTy, he, Bool.false_eq_true, ↓reduceIte] at h
    split at h
    · cases h
      exact bits rfl ‹_›
    · cases h
  | lt | gt | lte | gte =>
    simp only [binTy, he, Bool.or_false] at h
    split at h
    · cases h
      rename_i hc
      obtain ⟨t', hc⟩ := Option.isSome_iff_exists.1 hc
      exact ⟨.order _ _ _ _ rfl (convBasic_join hc), rfl⟩
    · split at h
      · cases h
        exact ⟨.orderChar _ rfl, rfl⟩
      · cases h
  | eq | neq =>
    simp only [binTy, he, Bool.or_false] at h
    split at h
    · cases h
      exact ⟨.equalBool _ rfl, rfl⟩
    · cases h
      exact ⟨.equalChar _ rfl, rfl⟩
    · cases h
      exact ⟨.equalString _ rfl, rfl⟩
    · split at h
      · cases h
        rename_i hc
        obtain ⟨t', hc⟩ := Option.isSome_iff_exists.1 hc
        exact ⟨.equalNum _ _ _ _ rfl (convBasic_join hc), rfl⟩
      · cases h
  | and | or =>
    simp only [binTy] at h
    split at h
    · cases h
      exact ⟨.logic _ rfl, rfl⟩
    · cases h

theorem unTy_scalar_sound (op : UnOp) (a t : Ty) (ha : scalar a = true) (h : unTy op a = some t) :
    UnOk op a t ∧ scalar t = true := by
  cases a <;> simp [scalar] at ha <;> cases op <;> simp [unTy] at h <;> subst h <;>
    refine ⟨?_, rfl⟩ <;>
    first
      | exact .neg _ rfl
      | exact .not
      | exact .bnot _ rfl

theorem combCmp_scalar (a b : Ty) (t : CT) (ha : scalar a = true) (hb : scalar b = true)
    (h : combCmp (.val a) (.val b) = .ok t) : a = b ∧ t = .val a := by
  simp only [combCmp] at h
  split at h <;> first | (cases h <;> exact ⟨rfl, rfl⟩) | cases ha

theorem isBool_val {t : Ty} (h : isBool (.val t) = true) : t = .bool := by
  cases t <;> first | rfl | cases h

theorem tc_sound_frag (Γ : Env) (e : Expr) (c : Comb) (hΓ : ScalarEnv Γ) (hfrag : Frag e)
    (h : tc Γ e = .ok c) : ∃ t, c.ct = .val t ∧ HasType Γ e t := by
  suffices hs : ∃ t, c.ct = .val t ∧ scalar t = true ∧ HasType Γ e t by
    obtain ⟨t, h1, _, h3⟩ := hs; exact ⟨t, h1, h3⟩
  induction hfrag generalizing c with
  | litBool ln | litInt ln | litLong ln | litFloat ln | litDouble ln | litChar ln | litString ln =>
    cases h
    exact ⟨_, rfl, rfl, by constructor⟩
  | id ln x =>
    simp only [tc] at h
    split at h
    · cases h
    · cases h
      rename_i ent hl
      obtain ⟨t, ht, hsc⟩ := hΓ x ent hl
      exact ⟨t, ht, hsc, .id ln x ent t hl ht⟩
  | un ln op e _ ih =>
    simp only [tc, bind_eq_ok'] at h
    obtain ⟨ce, he, h⟩ := h
    obtain ⟨a, hca, hsa, hta⟩ := ih ce he
    simp only [hca] at h
    split at h
    · cases h
      rename_i t hu
      obtain ⟨hok, hst⟩ := unTy_scalar_sound op a t hsa hu
      exact ⟨t, rfl, hst, .un ln op e a t hta hok⟩
    · cases h
  | bin ln op l r _ _ ihl ihr =>
    simp only [tc, bind_eq_ok'] at h
    obtain ⟨cl, hl, cr, hr, h⟩ := h
    obtain ⟨a, hca, hsa, hta⟩ := ihl cl hl
    obtain ⟨b, hcb, hsb, htb⟩ := ihr cr hr
    simp only [hca, hcb] at h
    split at h
    · cases h
      rename_i t hb
      obtain ⟨hok, hst⟩ := binTy_scalar_sound op a b t hsa hsb hb
      exact ⟨t, rfl, hst, .bin ln op l r a b t hta htb hok⟩
    · cases h
  | sup ln e _ ih =>
    obtain ⟨t, h1, h2, h3⟩ := ih c h
    exact ⟨t, h1, h2, .sup ln e t h3⟩
  | cond ln c0 a0 b0 _ _ _ ihc iha ihb =>
    simp only [tc, bind_eq_ok'] at h
    obtain ⟨cc, hc, ca, ha, cb, hb, h⟩ := h
    obtain ⟨tc', hcc, _, htc⟩ := ihc cc hc
    obtain ⟨ta, hca, hsa, hta⟩ := iha ca ha
    obtain ⟨tb, hcb, hsb, htb⟩ := ihb cb hb
    simp only [hcc, hca, hcb] at h
    split at h
    · rename_i hbool
      cases isBool_val hbool
      split at h
      · cases h
        rename_i t hcmp
        obtain ⟨hab, ht⟩ := combCmp_scalar ta tb t hsa hsb hcmp
        subst hab ht
        exact ⟨ta, rfl, hsa, .cond ln c0 a0 b0 ta htc hta htb⟩
      · cases h
    · cases h
  | while_ ln c0 b0 _ _ ihc ihb =>
    simp only [tc, bind_eq_ok'] at h
    obtain ⟨cc, hc, cb, hb, h⟩ := h
    obtain ⟨tc', hcc, _, htc⟩ := ihc cc hc
    obtain ⟨tb, hcb, hsb, htb⟩ := ihb cb hb
    simp only [hcc] at h
    split at h
    · rename_i hbool
      cases isBool_val hbool
      cases h
      exact ⟨.int, rfl, rfl, .while_ ln c0 b0 tb htc htb⟩
    · cases h

end Never.Tc
