/-
Top-level glue lemmas: the renamed program's function table, `runMain` under renaming and under
more fuel, an admissible renaming used as non-vacuity witness.
-/
import NeverModel.Lemmas.SrcResolve
import NeverModel.Lemmas.SrcFv
import NeverModel.Lemmas.SrcPresEval
namespace Never.Src

variable {ν : Ren}

theorem rnVar_main (hν : Adm ν) (bs : List Name) : rnVar ν bs "main" = "main" := by
  obtain ⟨d, hd, _⟩ := rnVarD_form (ν := ν) bs.length bs "main"
  rw [rnVar, hd, hν.main]

theorem ctx_rnP (hν : Adm ν) (p : Prog) : (rnP ν p).ctx = rnCtx ν p.ctx := by
  have h1 : (rnP ν p).topNames = rnStack ν p.topNames := by
    simp only [Prog.topNames, rnP, funcNames_rnFs]
    have := rnStack_rev_append (ν := ν) (funcNames p.funcs) []
    simp only [List.append_nil, List.length_nil, rnStack] at this
    exact this.symm
  simp only [Prog.ctx, h1, rnCtx]
  simp only [rnP]
  rw [collectFs_rn hν]

theorem runMain_alpha (hν : Adm ν) (p : Prog) (args : List Arg) (n : Nat) :
    runMain (rnP ν p) args n = runMain p args n := by
  simp only [runMain, ctx_rnP hν]
  have hg := allocGroup_rn (ν := ν) p.funcs [] p.topNames
  simp only [List.length_nil, rnEnv] at hg
  have hf : (rnP ν p).funcs = rnFs ν p.topNames 0 p.funcs := rfl
  rw [hf, hg, map_bind]
  apply congrFun
  refine bind_congr_post (allocGroup_names p.funcs []) fun env' _ => ?_
  have hl := lookup_rn hν "main" env'
  rw [rnVar_main hν] at hl
  rw [hl]
  cases lookup "main" env' with
  | none => rfl
  | some lm => simp only [(alphaAt hν n).call]

theorem runMain_mono (p : Prog) (args : List Arg) (n m : Nat) (h : n ≤ m)
    (hn : ¬ (runMain p args n).isOOF) : runMain p args m = runMain p args n := by
  have key : Mono (do
      let env ← allocGroup p.funcs []
      match lookup "main" env with
      | none => stuck "no main"
      | some lm =>
        let as ← allocArgs args
        match (← load lm) with
        | .clo (some (fid, cells)) => callClo n p.ctx fid cells as
        | _ => stuck "main is not a function")
      (do
      let env ← allocGroup p.funcs []
      match lookup "main" env with
      | none => stuck "no main"
      | some lm =>
        let as ← allocArgs args
        match (← load lm) with
        | .clo (some (fid, cells)) => callClo m p.ctx fid cells as
        | _ => stuck "main is not a function") := by
    apply Mono.bind Mono.rfl
    intro env
    split
    · exact Mono.rfl
    · apply Mono.bind Mono.rfl
      intro as
      apply Mono.bind Mono.rfl
      intro v
      split
      · exact mono_le n m h _ _ _ _
      · exact Mono.rfl
  exact key.h {} hn

/-- de Bruijn levels in unary: the binder pushed at depth `d` is named `v…v` (d+1 letters) -/
def nuLevel : Ren := fun x d => if x = "main" then "main" else String.ofList (List.replicate (d + 1) 'v')

theorem nuLevel_adm : Adm nuLevel := by
  have hm : "main" = String.ofList ['m', 'a', 'i', 'n'] := by decide
  constructor
  · intro x y d d' h
    simp only [nuLevel] at h
    by_cases hx : x = "main" <;> by_cases hy : y = "main"
    · exact Or.inl (hx.trans hy.symm)
    · simp only [hx, hy, if_true, if_false] at h
      rw [hm] at h
      have := String.ofList_injective h
      cases d' <;> simp [List.replicate] at this
    · simp only [hx, hy, if_true, if_false] at h
      rw [hm] at h
      have := String.ofList_injective h
      cases d <;> simp [List.replicate] at this
    · simp only [hx, hy, if_false] at h
      have := congrArg List.length (String.ofList_injective h)
      simp at this
      exact Or.inr this
  · intro x d
    simp only [nuLevel]
    split
    · decide
    · intro h
      have := congrArg String.length h
      simp at this
  · intro d; simp [nuLevel]


end Never.Src
