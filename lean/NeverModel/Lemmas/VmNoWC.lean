import NeverModel.Lemmas.VmEffectLoops
import NeverModel.Lemmas.Frame
set_option linter.unusedSimpArgs false
/-! which computations can end in the "stack write out of bounds" crash (the model's outcome for a store outside the stack array: the
C code's undefined behaviour).  `NoWC f`: `f` never does, from any machine — every helper that does not write the stack (one `nowc_*` fact per helper, looked up by the walker `nowc`
through `vm_spec`). -/
namespace Never.Vm
open Never Never.Num

/-- the outcome of a stack store outside `[0, stackSize)` -/
def wildWrite : Stop := .crash "stack write out of bounds"

/-- a computation that never ends in a stack store outside the stack array -/
def NoWC {α} (f : M α) : Prop := ∀ vm, f.run vm ≠ .error wildWrite

theorem NoWC.bind {α β} {f : M α} {g : α → M β} (hf : NoWC f) (hg : ∀ a, NoWC (g a)) : NoWC (f >>= g) := by
  intro vm h
  rcases (run_bind_err f g vm _).mp h with h1 | ⟨a, vm', _, h2⟩
  · exact hf vm h1
  · exact hg a vm' h2

@[vm_spec] theorem NoWC.pure {α} (a : α) : NoWC (Pure.pure a : M α) := by
  intro vm h; simp [StateT.run, Pure.pure, StateT.pure, Except.pure] at h

/-- proves `NoWC f` for a block built from helpers whose `NoWC` facts carry `@[vm_spec]`: both sides of `>>=`, the branches of `if`
and `match`, the fact at the leaves (a crash with another message is decided) -/
syntax "nowc" : tactic
macro_rules
  | `(tactic| nowc) => `(tactic|
      first
      | (with_reducible refine NoWC.bind ?_ (fun _ => ?_)) <;> nowc
      | (fail_if_success (with_reducible refine NoWC.bind ?_ (fun _ => ?_))
         first
         | (simp only [vm_spec, implies_true, ne_eq, String.reduceEq, not_false_eq_true]; done)
         | (with_reducible apply_assumption; done)
         | (split <;> nowc)
         | (fail_if_success split; dsimp only; nowc)))

macro "nowc1" : tactic => `(tactic| first | (simp only [vm_spec, implies_true, ne_eq, String.reduceEq, not_false_eq_true]; done))

theorem crash_run_err {α} (w : String) (vm : Vm) : (crash w : M α).run vm = .error (.crash w) := by
  simp [crash, throw, throwThe, MonadExceptOf.throw, StateT.run, StateT.lift, liftM, monadLift, MonadLift.monadLift, Except.bind, Bind.bind]

/-- a crash for another reason -/
@[vm_spec] theorem nowc_crash {α} (w : String) (hw : w ≠ "stack write out of bounds") : NoWC (crash w : M α) := by
  intro vm h
  rw [crash_run_err] at h
  unfold wildWrite at h
  simp only [Except.error.injEq, Stop.crash.injEq] at h
  exact hw h

@[vm_spec] theorem nowc_exit {α} (w : String) (o : List UInt8) : NoWC (exitVm w o : M α) := by
  intro vm h; simp [exitVm, wildWrite, throw, throwThe, MonadExceptOf.throw, StateT.run, StateT.lift, liftM, monadLift, MonadLift.monadLift, Except.bind, Bind.bind] at h

@[vm_spec] theorem nowc_get : NoWC (get : M Vm) := by
  intro vm h; simp [get, getThe, MonadStateOf.get, StateT.get, StateT.run, Pure.pure, Except.pure] at h

@[vm_spec] theorem nowc_set (v : Vm) : NoWC (set v : M PUnit) := by
  intro vm h; simp [set, StateT.set, StateT.run, Pure.pure, Except.pure] at h

@[vm_spec] theorem nowc_modify (f : Vm → Vm) : NoWC (modify f : M PUnit) := by
  intro v h; simp [modify, modifyGet, MonadStateOf.modifyGet, StateT.modifyGet, StateT.run, Pure.pure, Except.pure] at h

@[vm_spec] theorem nowc_rdSlot (i : Int) : NoWC (rdSlot i) := by
  unfold rdSlot
  apply NoWC.bind nowc_get; intro vm
  split
  · exact nowc_crash _ (by decide)
  · exact NoWC.pure _

@[vm_spec] theorem nowc_alloc (o : Obj) : NoWC (alloc o) := by
  unfold alloc
  apply NoWC.bind nowc_get; intro vm
  split
  · exact nowc_exit _ _
  · exact NoWC.bind (nowc_set _) (fun _ => NoWC.pure _)

@[vm_spec] theorem nowc_objOf (a : Nat) : NoWC (objOf a) := by
  unfold objOf
  apply NoWC.bind nowc_get; intro vm
  split
  · exact nowc_crash _ (by decide)
  · split
    · exact NoWC.pure _
    · exact nowc_crash _ (by decide)

@[vm_spec] theorem nowc_checkStack : NoWC checkStack := by
  unfold checkStack
  apply NoWC.bind nowc_get; intro vm
  split
  · exact nowc_exit _ _
  · exact NoWC.pure _

/-- the numeric model's own crash outcomes (SIGFPE, shift count) are not the wild stack write -/
def NResOk (r : NRes) : Prop := ∀ w, r = .crash w → w ≠ "stack write out of bounds"

@[vm_spec] theorem binInt_ok (op : BinOp) (a b : BitVec 32) : NResOk (binInt op a b) := by
  unfold binInt NResOk; intro w h; (repeat' split at h) <;> first | (cases h; done) | (cases h; decide)
@[vm_spec] theorem binLong_ok (op : BinOp) (a b : BitVec 64) : NResOk (binLong op a b) := by
  unfold binLong NResOk; intro w h; (repeat' split at h) <;> first | (cases h; done) | (cases h; decide)
@[vm_spec] theorem binFloat_ok (op : BinOp) (a b : BitVec 32) : NResOk (binFloat op a b) := by
  unfold binFloat NResOk; intro w h; simp only at h; (repeat' split at h) <;> first | (cases h; done) | (cases h; decide)
@[vm_spec] theorem binDouble_ok (op : BinOp) (a b : BitVec 64) : NResOk (binDouble op a b) := by
  unfold binDouble NResOk; intro w h; simp only at h; (repeat' split at h) <;> first | (cases h; done) | (cases h; decide)
@[vm_spec] theorem binChar_ok (op : BinOp) (a b : BitVec 8) : NResOk (binChar op a b) := by
  unfold binChar NResOk; intro w h; (repeat' split at h) <;> first | (cases h; done) | (cases h; decide)
@[vm_spec] theorem bin_ok (ty : NTy) (op : BinOp) (a b : NVal) : NResOk (bin ty op a b) := by
  unfold bin
  split
  · exact binInt_ok _ _ _
  · exact binLong_ok _ _ _
  · exact binFloat_ok _ _ _
  · exact binDouble_ok _ _ _
  · exact binChar_ok _ _ _
  · intro w h; cases h
@[vm_spec] theorem un_ok (ty : NTy) (op : UnOp) (a : NVal) : NResOk (un ty op a) := by
  unfold un NResOk; intro w h; (repeat' split at h) <;> first | (cases h; done) | (cases h; decide)
@[vm_spec] theorem conv_ok (src dst : NTy) (a : NVal) : NResOk (conv src dst a) := by
  unfold conv NResOk; intro w h; (repeat' split at h) <;> first | (cases h; done) | (cases h; decide)

@[vm_spec] theorem nowc_rdAddr (i : Int) : NoWC (rdAddr i) := by unfold rdAddr; nowc
@[vm_spec] theorem nowc_getSp : NoWC getSp := by unfold getSp; nowc
@[vm_spec] theorem nowc_setSp (v : Int) : NoWC (setSp v) := by unfold setSp; nowc
@[vm_spec] theorem nowc_raise (e : Nat) : NoWC (raise e) := by unfold raise; nowc
@[vm_spec] theorem nowc_setObj (a : Nat) (o : Obj) : NoWC (setObj a o) := by unfold setObj; nowc
@[vm_spec] theorem nowc_emit (bs : List UInt8) : NoWC (emit bs) := by unfold emit; nowc

@[vm_spec] theorem nowc_getInt (a : Nat) : NoWC (getInt a) := by unfold getInt; nowc
@[vm_spec] theorem nowc_getLong (a : Nat) : NoWC (getLong a) := by unfold getLong; nowc
@[vm_spec] theorem nowc_getFloat (a : Nat) : NoWC (getFloat a) := by unfold getFloat; nowc
@[vm_spec] theorem nowc_getDouble (a : Nat) : NoWC (getDouble a) := by unfold getDouble; nowc
@[vm_spec] theorem nowc_getChar (a : Nat) : NoWC (getChar a) := by unfold getChar; nowc
@[vm_spec] theorem nowc_getStr (a : Nat) : NoWC (getStr a) := by unfold getStr; nowc
@[vm_spec] theorem nowc_getStrRef (a : Nat) : NoWC (getStrRef a) := by unfold getStrRef; nowc
@[vm_spec] theorem nowc_getVecRef (a : Nat) : NoWC (getVecRef a) := by unfold getVecRef; nowc
@[vm_spec] theorem nowc_getArrRef (a : Nat) : NoWC (getArrRef a) := by unfold getArrRef; nowc
@[vm_spec] theorem nowc_getVecObj (a : Nat) : NoWC (getVecObj a) := by unfold getVecObj; nowc
@[vm_spec] theorem nowc_getArrObj (a : Nat) : NoWC (getArrObj a) := by unfold getArrObj; nowc
@[vm_spec] theorem nowc_getFunc (a : Nat) : NoWC (getFunc a) := by unfold getFunc; nowc
@[vm_spec] theorem nowc_getCPtr (a : Nat) : NoWC (getCPtr a) := by unfold getCPtr; nowc

@[vm_spec] theorem nowc_scalarOf (ty : NTy) (a : Nat) : NoWC (scalarOf ty a) := by unfold scalarOf; cases ty <;> simp only <;> nowc
@[vm_spec] theorem nowc_resOf (r : NRes) (hr : NResOk r) : NoWC (resOf r) := by
  unfold resOf
  cases r with
  | ok v => nowc
  | exc e => nowc
  | crash w => exact nowc_crash _ (hr w rfl)
  | tag => nowc
@[vm_spec] theorem nowc_okVal (r : NRes) (hr : NResOk r) : NoWC (okVal r) := by
  unfold okVal
  cases r with
  | ok v => nowc
  | exc e => nowc
  | crash w => exact nowc_crash _ (hr w rfl)
  | tag => nowc
@[vm_spec] theorem nowc_getVec (a i : Nat) : NoWC (getVec a i) := by unfold getVec; nowc
@[vm_spec] theorem nowc_setVec (a i v : Nat) : NoWC (setVec a i v) := by unfold setVec; nowc
@[vm_spec] theorem nowc_getArrElem (a i : Nat) : NoWC (getArrElem a i) := by unfold getArrElem; nowc
@[vm_spec] theorem nowc_setArrElem (a i v : Nat) : NoWC (setArrElem a i v) := by unfold setArrElem; nowc
@[vm_spec] theorem nowc_allocArr (e : List Nat) : NoWC (allocArr e) := by unfold allocArr; nowc

@[vm_spec] theorem nowc_rangePair (r d : Nat) : NoWC (rangePair r d) := by unfold rangePair; nowc
@[vm_spec] theorem nowc_feCheck (orc : Oracle) : NoWC (feCheck orc) := by unfold feCheck; nowc

@[vm_spec] theorem nowc_allocEach (o : Obj) (n : Nat) : NoWC (allocEach o n) := by
  induction n with
  | zero => unfold allocEach; nowc
  | succ n ih => unfold allocEach; nowc

@[vm_spec] theorem nowc_mapElems (ty : NTy) (f : NVal → M NVal) (hf : ∀ v, NoWC (f v)) (es : List Nat) : NoWC (mapElems ty f es) := by
  induction es with
  | nil => unfold mapElems; nowc
  | cons e es ih => unfold mapElems; nowc

@[vm_spec] theorem nowc_zipArith (ty : NTy) (bop : BinOp) (xs ys : List Nat) : NoWC (zipArith ty bop xs ys) := by
  induction xs generalizing ys with
  | nil => unfold zipArith; nowc
  | cons x xs ih =>
    cases ys with
    | nil => unfold zipArith; nowc
    | cons y ys => unfold zipArith; have := ih ys; nowc

@[vm_spec] theorem nowc_dotSum (ty : NTy) (es1 es2 : List Nat) (i j inner cols k n : Nat) (acc : NVal) :
    NoWC (dotSum ty es1 es2 i j inner cols k n acc) := by
  induction n generalizing k acc with
  | zero => unfold dotSum; nowc
  | succ n ih => unfold dotSum; nowc

@[vm_spec] theorem nowc_matCols (ty : NTy) (es1 es2 : List Nat) (mres i inner cols j m : Nat) :
    NoWC (matCols ty es1 es2 mres i inner cols j m) := by
  induction m generalizing j with
  | zero => unfold matCols; nowc
  | succ m ih => unfold matCols; have := nowc_dotSum ty es1 es2 i j inner cols 0 inner (zeroOf ty); nowc

@[vm_spec] theorem nowc_matRows (ty : NTy) (es1 es2 : List Nat) (mres inner cols i n : Nat) :
    NoWC (matRows ty es1 es2 mres inner cols i n) := by
  induction n generalizing i with
  | zero => unfold matRows; nowc
  | succ n ih => unfold matRows; have := nowc_matCols ty es1 es2 mres i inner cols 0 cols; nowc

@[vm_spec] theorem nowc_composeRanges (r1 r2 res d n : Nat) : NoWC (composeRanges r1 r2 res d n) := by
  induction n generalizing d with
  | zero => unfold composeRanges; nowc
  | succ n ih => unfold composeRanges; nowc

@[vm_spec] theorem nowc_rangePairs (r d n : Nat) : NoWC (rangePairs r d n) := by
  induction n generalizing d with
  | zero => unfold rangePairs; nowc
  | succ n ih => unfold rangePairs; nowc


@[vm_spec] theorem nowc_popAddrs (n : Nat) : NoWC (popAddrs n) := by
  induction n with
  | zero => unfold popAddrs; nowc
  | succ n ih => unfold popAddrs; nowc

@[vm_spec] theorem nowc_popInts (n : Nat) : NoWC (popInts n) := by
  induction n with
  | zero => unfold popInts; nowc
  | succ n ih => unfold popInts; nowc

@[vm_spec] theorem nowc_popExts (n : Nat) : NoWC (popExts n) := by
  induction n with
  | zero => unfold popExts; nowc
  | succ n ih => unfold popExts; nowc

@[vm_spec] theorem nowc_popIndices (n : Nat) : NoWC (popIndices n) := by
  induction n with
  | zero => unfold popIndices; nowc
  | succ n ih => unfold popIndices; nowc

@[vm_spec] theorem nowc_rangeDerefLoop (range array d n : Nat) : NoWC (rangeDerefLoop range array d n) := by
  induction n generalizing d with
  | zero => unfold rangeDerefLoop; nowc
  | succ n ih => unfold rangeDerefLoop; nowc


end Never.Vm
