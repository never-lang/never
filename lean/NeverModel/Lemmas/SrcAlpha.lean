/-
Helper lemmas for C08 `eval_alpha`: the evaluator commutes with every admissible renaming of
bound names.  The functional invariant: the renamed program runs in `rnEnv ν env` (same cells,
renamed names) over the SAME store; values never mention names (closures hold a function id and
the cells of the defining environment), so both runs are equal as computations.
-/
import NeverModel.Model.SrcSyn
namespace Never.Src

variable {ν : Ren}

/-! ### environments -/

@[simp] theorem names_cons (x : Name) (l : Loc) (env : Env) : names ((x, l) :: env) = x :: names env := rfl
@[simp] theorem locs_cons (x : Name) (l : Loc) (env : Env) : locs ((x, l) :: env) = l :: locs env := rfl
@[simp] theorem names_nil : names ([] : Env) = [] := rfl
@[simp] theorem length_names (env : Env) : (names env).length = env.length := by simp [names]

@[simp] theorem rnEnv_length (env : Env) : (rnEnv ν env).length = env.length := by
  induction env with
  | nil => rfl
  | cons p env ih => cases p; simp [rnEnv, ih]

@[simp] theorem locs_rnEnv (env : Env) : locs (rnEnv ν env) = locs env := by
  induction env with
  | nil => rfl
  | cons p env ih => cases p; simp [rnEnv, ih]

theorem names_rnEnv (env : Env) : names (rnEnv ν env) = rnStack ν (names env) := by
  induction env with
  | nil => rfl
  | cons p env ih => cases p; simp [rnEnv, rnStack, ih]

theorem rnEnv_cons (x : Name) (l : Loc) (env : Env) :
    rnEnv ν ((x, l) :: env) = (ν x env.length, l) :: rnEnv ν env := rfl

theorem rnVarD_form (L : Nat) (bs : List Name) (x : Name) :
    ∃ d, rnVarD ν L bs x = ν x d ∧ (d < bs.length ∨ d = L) := by
  induction bs with
  | nil => exact ⟨L, rfl, Or.inr rfl⟩
  | cons y bs ih =>
    by_cases h : x = y
    · subst h; exact ⟨bs.length, by simp [rnVarD], Or.inl (by simp)⟩
    · obtain ⟨d, hd, hlt⟩ := ih
      refine ⟨d, by simp [rnVarD, h, hd], ?_⟩
      cases hlt with
      | inl h1 => exact Or.inl (by simp; omega)
      | inr h1 => exact Or.inr h1

theorem lookup_rnD (hν : Adm ν) (x : Name) (env : Env) (L : Nat) (hL : env.length ≤ L) :
    lookup (rnVarD ν L (names env) x) (rnEnv ν env) = lookup x env := by
  induction env with
  | nil => simp [lookup, rnEnv]
  | cons p env ih =>
    obtain ⟨y, l⟩ := p
    simp only [names_cons, rnEnv_cons, List.length_cons] at *
    by_cases h : x = y
    · subst h; simp [rnVarD, lookup]
    · have hne : rnVarD ν L (names env) x ≠ ν y env.length := by
        obtain ⟨d, hd, hlt⟩ := rnVarD_form (ν := ν) L (names env) x
        rw [hd]
        intro heq
        cases hν.inj _ _ _ _ heq with
        | inl h1 => exact h h1
        | inr h1 =>
          cases hlt with
          | inl h2 => simp at h2; omega
          | inr h2 => omega
      simp only [rnVarD, h, if_false, lookup, hne]
      exact ih (by omega)

theorem lookup_rn (hν : Adm ν) (x : Name) (env : Env) :
    lookup (rnVar ν (names env) x) (rnEnv ν env) = lookup x env := by
  unfold rnVar
  exact lookup_rnD hν x env _ (by simp)

theorem names_mkEnv (bs : List Name) (cells : List Loc) : names (mkEnv bs cells) = bs := by
  induction bs generalizing cells with
  | nil => rfl
  | cons x bs ih => cases cells <;> simp [mkEnv, ih]

theorem mkEnv_length (bs : List Name) (cells : List Loc) : (mkEnv bs cells).length = bs.length := by
  rw [← length_names, names_mkEnv]

theorem mkEnv_rn (bs : List Name) (cells : List Loc) :
    mkEnv (rnStack ν bs) cells = rnEnv ν (mkEnv bs cells) := by
  induction bs generalizing cells with
  | nil => rfl
  | cons x bs ih => cases cells <;> simp [mkEnv, rnStack, rnEnv_cons, ih, mkEnv_length]

theorem bindNames_rn (binds : List Name) (ls : List Loc) (env : Env) :
    bindNames (rnNames ν env.length binds) ls (rnEnv ν env) = rnEnv ν (bindNames binds ls env) := by
  induction binds generalizing ls env with
  | nil => rfl
  | cons x xs ih =>
    cases ls with
    | nil =>
      simp only [rnNames, bindNames]
      rw [← rnEnv_cons x 0 env]
      have := ih [] ((x, 0) :: env)
      simpa using this
    | cons l ls =>
      simp only [rnNames, bindNames]
      rw [← rnEnv_cons x l env]
      have := ih ls ((x, l) :: env)
      simpa using this

theorem names_bindNames (binds : List Name) (ls : List Loc) (env : Env) :
    names (bindNames binds ls env) = binds.reverse ++ names env := by
  induction binds generalizing ls env with
  | nil => rfl
  | cons x xs ih => cases ls <;> simp [bindNames, ih]

theorem pushFuncs_rn (fs : List Func) (l : Loc) (env : Env) (bs : List Name) :
    pushFuncs (rnFs ν bs env.length fs) l (rnEnv ν env) = rnEnv ν (pushFuncs fs l env) := by
  induction fs generalizing l env with
  | nil => rfl
  | cons f fs ih =>
    obtain ⟨id, n, ps, r, body, cs⟩ := f
    simp only [rnFs, pushFuncs, rnF, Func.name]
    rw [← rnEnv_cons n l env]
    have := ih (l + 1) ((n, l) :: env)
    simpa using this

theorem names_pushFuncs (fs : List Func) (l : Loc) (env : Env) :
    names (pushFuncs fs l env) = (funcNames fs).reverse ++ names env := by
  induction fs generalizing l env with
  | nil => rfl
  | cons f fs ih => simp [pushFuncs, funcNames, ih]

theorem rnFs_length (bs : List Name) (d : Nat) (fs : List Func) : (rnFs ν bs d fs).length = fs.length := by
  induction fs generalizing d with
  | nil => rfl
  | cons f fs ih => obtain ⟨id, n, ps, r, body, cs⟩ := f; simp [rnFs, ih]

theorem fillFuncs_rn (cells : List Loc) (bs : List Name) (d : Nat) (fs : List Func) (l : Loc) :
    fillFuncs cells (rnFs ν bs d fs) l = fillFuncs cells fs l := by
  induction fs generalizing d l with
  | nil => rfl
  | cons f fs ih =>
    obtain ⟨id, n, ps, r, body, cs⟩ := f
    simp [rnFs, fillFuncs, rnF, Func.id, ih]

/-! ### the monad -/

theorem bind_eq (m : M α) (k : α → M β) : (m >>= k) = M.bind m k := rfl

/-- every value `m` returns satisfies `P` -/
def Post (m : M α) (P : α → Prop) : Prop := ∀ s a s', m s = .ok a s' → P a

theorem Post.pure {P : α → Prop} {a : α} (h : P a) : Post (pure a : M α) P := by
  intro s b s' hb
  cases hb
  exact h

theorem Post.bind {m : M α} {k : α → M β} {P : α → Prop} {Q : β → Prop} (hm : Post m P) (hk : ∀ a, P a → Post (k a) Q) :
    Post (m >>= k) Q := by
  intro s b s' hb
  simp only [bind_eq, M.bind] at hb
  cases h : m s with
  | ok a s1 => rw [h] at hb; exact hk a (hm s a s1 h) s1 b s' hb
  | exc e s1 => rw [h] at hb; cases hb
  | stop c s1 => rw [h] at hb; cases hb

theorem Post.true (m : M α) : Post m fun _ => True := fun _ _ _ _ => trivial

theorem bind_congr {m : M α} {k k' : α → M β} (h : ∀ a, k a = k' a) : (m >>= k) = (m >>= k') := by
  rw [funext h]

/-- congruence of `bind` under a postcondition of the first computation -/
theorem bind_congr_post {m : M α} {k k' : α → M β} {P : α → Prop} (hP : Post m P) (hk : ∀ a, P a → k a = k' a) :
    (m >>= k) = (m >>= k') := by
  funext s
  simp only [bind_eq, M.bind]
  cases h : m s with
  | ok a s' => simp [hk a (hP s a s' h)]
  | exc e s' => rfl
  | stop c s' => rfl

def M.map (f : α → β) (m : M α) : M β := m >>= fun a => pure (f a)

theorem map_bind (f : α → β) (m : M α) (k : β → M γ) : (M.map f m >>= k) = (m >>= fun a => k (f a)) := by
  funext s
  simp only [M.map, bind_eq, M.bind]
  cases m s <;> rfl

theorem map_bind_right (f : β → γ) (m : M α) (k : α → M β) : M.map f (m >>= k) = (m >>= fun a => M.map f (k a)) := by
  funext s
  simp only [M.map, bind_eq, M.bind]
  cases m s <;> rfl

theorem allocGroup_rn (fs : List Func) (env : Env) (bs : List Name) :
    allocGroup (rnFs ν bs env.length fs) (rnEnv ν env) = M.map (rnEnv ν) (allocGroup fs env) := by
  funext st
  simp only [allocGroup, M.map, pushFuncs_rn, locs_rnEnv, rnFs_length, fillFuncs_rn, bind_eq, M.bind]
  cases allocN fs.length (Val.clo none) st with
  | ok a s' =>
    simp only
    cases fillFuncs (locs (pushFuncs fs st.mem.size env)) fs st.mem.size s' <;> rfl
  | exc e s' => rfl
  | stop c s' => rfl

theorem allocGroup_names (fs : List Func) (env : Env) :
    Post (allocGroup fs env) fun env' => names env' = (funcNames fs).reverse ++ names env := by
  intro s
  have h : Post (pure (pushFuncs fs s.mem.size env) : M Env) fun env' => names env' = (funcNames fs).reverse ++ names env :=
    Post.pure (names_pushFuncs fs s.mem.size env)
  exact Post.bind (Post.true _) (fun _ _ => Post.bind (Post.true _) fun _ _ => h) s

/-! ### parameters -/

theorem bindDimRefs_rn (ds : List Name) (l : Loc) (k : Nat) (env : Env) :
    bindDimRefs (rnNames ν env.length ds) l k (rnEnv ν env) = M.map (rnEnv ν) (bindDimRefs ds l k env) := by
  induction ds generalizing k env with
  | nil => rfl
  | cons d ds ih =>
    simp only [rnNames, bindDimRefs, map_bind_right]
    exact bind_congr fun c => ih (k + 1) ((d, c) :: env)

theorem bindDimRefs_names (ds : List Name) (l : Loc) (k : Nat) (env : Env) :
    Post (bindDimRefs ds l k env) fun env' => names env' = ds.reverse ++ names env := by
  induction ds generalizing k env with
  | nil => exact Post.pure rfl
  | cons d ds ih =>
    simp only [bindDimRefs, List.reverse_cons, List.append_assoc, List.singleton_append]
    exact Post.bind (Post.true _) fun c _ => ih (k + 1) ((d, c) :: env)

theorem rnNames_isEmpty (d : Nat) (xs : List Name) : (rnNames ν d xs).isEmpty = xs.isEmpty := by
  cases xs <;> rfl

theorem rnNames_length (d : Nat) (xs : List Name) : (rnNames ν d xs).length = xs.length := by
  induction xs generalizing d with
  | nil => rfl
  | cons x xs ih => simp [rnNames, ih]

theorem bindParams_names (ps : List Param) (args : List Loc) (env : Env) :
    Post (bindParams ps args env) fun env' => names env' = (paramBinders ps).reverse ++ names env := by
  induction ps generalizing args env with
  | nil => exact Post.pure rfl
  | cons p ps ih =>
    cases args with
    | nil => intro s a s' h; cases h
    | cons l ls =>
      simp only [bindParams, paramBinders, List.reverse_cons, List.reverse_append, List.append_assoc, List.singleton_append]
      refine Post.bind (Post.true _) fun l' _ => ?_
      split
      · rename_i hd
        rw [List.isEmpty_iff.mp hd]
        exact ih ls _
      · refine Post.bind (bindDimRefs_names p.dims l' 0 _) fun env2 hn => ?_
        rw [← names_cons p.name l', ← hn]
        exact ih ls env2

theorem bindParams_rn (ps : List Param) (args : List Loc) (env : Env) :
    bindParams (rnParams ν env.length ps) args (rnEnv ν env) = M.map (rnEnv ν) (bindParams ps args env) := by
  induction ps generalizing args env with
  | nil => rfl
  | cons p ps ih =>
    cases args with
    | nil => rfl
    | cons l ls =>
      simp only [rnParams, bindParams, rnNames_isEmpty, map_bind_right]
      refine bind_congr fun l' => ?_
      split
      · rename_i hd
        rw [List.isEmpty_iff.mp hd]
        exact ih ls ((p.name, l') :: env)
      · rw [map_bind_right]
        refine (congrArg (· >>= _) (bindDimRefs_rn p.dims l' 0 ((p.name, l') :: env))).trans ?_
        rw [map_bind]
        refine bind_congr_post (bindDimRefs_names p.dims l' 0 _) fun env2 hn => ?_
        have hl : env2.length = env.length + 1 + p.dims.length := by
          have := congrArg List.length hn
          simp only [length_names, List.length_append, List.length_reverse, names_cons, List.length_cons] at this
          omega
        rw [← hl]
        exact ih ls env2

theorem findFun_rn (ctx : Ctx) (fid : Nat) :
    (rnCtx ν ctx).findFun fid = (ctx.findFun fid).map (rnEntry ν) := by
  simp only [Ctx.findFun, rnCtx]
  induction ctx.funs with
  | nil => rfl
  | cons e es ih =>
    simp only [List.map_cons, List.find?_cons]
    have : (rnEntry ν e).id = e.id := rfl
    rw [this]
    cases e.id == fid <;> simp [ih]

end Never.Src
