/-
Lemmas about the tail-call marker model (`Model/TailRec.lean`): what `markedAt` means along a path,
and the evaluator's behaviour along tail children.
-/
import NeverModel.Model.TailRec
import NeverModel.Lemmas.SrcAlpha
namespace Never.Src.Tail
open Never.Src
open Never.Gen.TailTab (Pass Row)

/-! ### enumeration of the slots -/

def allUn : List UnOp := [.neg, .not, .bnot]
def allBin : List BinOp := [.add, .sub, .mul, .div, .mod, .lt, .gt, .le, .ge, .eq, .ne, .band, .bor, .bxor, .shl, .shr]

def Slot.all : List Slot :=
  allUn.map .unArg ++ allBin.map .binL ++ allBin.map .binR ++
  [.andL, .andR, .orL, .orR, .condC, .condT, .condE, .assignL, .assignR,
   .seqLastExpr, .seqInitExpr, .seqLastBind, .seqInitBind, .seqLastFunc, .seqInitFunc,
   .whileC, .whileB, .doWhileB, .doWhileC, .forI, .forC, .forS, .forB, .forInColl, .forInBody,
   .callFn, .callArg, .builtinArg, .lamFn, .arrLitElem, .arrNewDim, .indexArr, .indexIdx,
   .recordArg, .tupleArg, .fieldObj, .enumRecArg, .matchScrut, .armItem, .armRecd, .armEls,
   .ifLetScrut, .ifLetThen, .ifLetElse, .compGen, .compFilter, .compBody,
   .funcBody, .catchOne, .catchAll, .progLastFunc, .progInitFunc]

theorem Slot.mem_all (s : Slot) : s ∈ Slot.all := by
  unfold Slot.all
  cases s with
  | unArg op =>
    exact List.mem_append_left _ (List.mem_append_left _ (List.mem_append_left _ (List.mem_map_of_mem (by cases op <;> decide))))
  | binL op =>
    exact List.mem_append_left _ (List.mem_append_left _ (List.mem_append_right _ (List.mem_map_of_mem (by cases op <;> decide))))
  | binR op => exact List.mem_append_left _ (List.mem_append_right _ (List.mem_map_of_mem (by cases op <;> decide)))
  | _ => exact List.mem_append_right _ (by decide)

/-- a fact decided for every element of `Slot.all` holds of every slot -/
theorem Slot.forall_of_all {P : Slot → Bool} (h : Slot.all.all P = true) (s : Slot) : P s = true :=
  List.all_eq_true.mp h s (Slot.mem_all s)

/-! ### the flag and the visible names along a path -/

/-- the flag that arrives at the end of a path -/
def flagAlong (tab : Slot → Pass) : Bool → Path → Bool
  | op, [] => op
  | op, (s, _) :: p => flagAlong tab (flag (tab s) op) p

/-- the names tailrec.c's lookup sees at the end of a path -/
def seenAlong : List Name → List Name → Expr → Path → List Name
  | seen, _, _, [] => seen
  | seen, pend, e, (s, i) :: p =>
    match kid e s i with
    | none => seen
    | some c =>
      if opensTable e s i then seenAlong (cBinders e s i ++ pend ++ seen) [] c p
      else seenAlong seen (hiddenBinders e s i ++ pend) c p

/-- `markedAt` unfolded: the node exists, the flag that arrives is ADD, and the node passes the retagging test -/
theorem markedAt_iff (tab : Slot → Pass) (self : Name) (p : Path) : ∀ (seen pend : List Name) (op : Bool) (e : Expr),
    markedAt tab self seen pend op e p = true ↔
      ∃ c, sub e p = some c ∧ flagAlong tab op p = true ∧ isSelfCall self (seenAlong seen pend e p) c = true := by
  induction p with
  | nil =>
    intro seen pend op e
    simp [markedAt, sub, flagAlong, seenAlong]
  | cons st p ih =>
    intro seen pend op e
    obtain ⟨s, i⟩ := st
    simp only [markedAt, sub, flagAlong, seenAlong]
    cases hk : kid e s i with
    | none => simp
    | some c =>
      simp only []
      split
      · exact ih _ _ _ _
      · exact ih _ _ _ _

theorem flag_eq_true {t : Pass} (ht : t ≠ .add) (op : Bool) : flag t op = true ↔ op = true ∧ t = .op := by
  cases t <;> simp [flag] at ht ⊢

/-- on a path none of whose steps re-raises the flag, ADD arrives at the end exactly when the flag was ADD at the start and
every step handed it down unchanged -/
theorem flagAlong_eq_true (tab : Slot → Pass) (p : Path) (h : ∀ st ∈ p, tab st.1 ≠ .add) (op : Bool) :
    flagAlong tab op p = true ↔ op = true ∧ ∀ st ∈ p, tab st.1 = .op := by
  induction p generalizing op with
  | nil => simp [flagAlong]
  | cons st p ih =>
    have ⟨hs, hp⟩ := List.forall_mem_cons.mp h
    rw [flagAlong, ih hp, flag_eq_true hs, List.forall_mem_cons, and_assoc]

theorem kid_funcBody (e : Expr) (i : Nat) : kid e .funcBody i = none := by
  cases e <;> rfl

/-- the steps of a path that exists are children of expressions: never a function-level site -/
theorem steps_not_funcBody {e : Expr} {p : Path} (h : (sub e p).isSome) : ∀ st ∈ p, st.1 ≠ Slot.funcBody := by
  induction p generalizing e with
  | nil => exact fun _ h => absurd h List.not_mem_nil
  | cons st p ih =>
    obtain ⟨s, i⟩ := st
    rw [sub] at h
    cases hk : kid e s i with
    | none => rw [hk] at h; cases h
    | some c =>
      rw [hk] at h
      refine List.forall_mem_cons.mpr ⟨?_, ih h⟩
      rintro rfl
      rw [kid_funcBody] at hk
      cases hk

theorem isSelfCall_spec {self : Name} {bound : List Name} {c : Expr} (h : isSelfCall self bound c = true) :
    ∃ args, c = .call (.var self) args ∧ self ≠ "" ∧ self ∉ bound := by
  unfold isSelfCall at h
  split at h
  · rename_i x args
    simp only [Bool.and_eq_true, beq_iff_eq, bne_iff_ne, ne_eq, Bool.not_eq_eq_eq_not, Bool.not_true,
      List.contains_eq_mem, decide_eq_false_iff_not] at h
    obtain ⟨⟨h1, h2⟩, h3⟩ := h
    subst h1
    exact ⟨args, rfl, h2, h3⟩
  · cases h

/-- what a mark says, for a table that raises the flag nowhere inside an expression: the flag was ADD at the start, every step
handed it down unchanged, and the node is a call of `self` that the lookup does not find shadowed -/
theorem markedAt_true {tab : Slot → Pass} (hadd : ∀ s, tab s = .add → s = .funcBody) {self : Name} {seen pend : List Name}
    {op : Bool} {e : Expr} {p : Path} (hm : markedAt tab self seen pend op e p = true) :
    op = true ∧ (∀ st ∈ p, tab st.1 = .op) ∧
      ∃ args, sub e p = some (.call (.var self) args) ∧ self ≠ "" ∧ self ∉ seenAlong seen pend e p := by
  obtain ⟨c, hsub, hflag, hself⟩ := (markedAt_iff tab self p _ _ _ _).mp hm
  have hna : ∀ st ∈ p, tab st.1 ≠ .add := fun st hst ha =>
    steps_not_funcBody (by rw [hsub]; rfl) st hst (hadd _ ha)
  obtain ⟨hop, hops⟩ := (flagAlong_eq_true tab p hna op).mp hflag
  obtain ⟨args, rfl, hne, hns⟩ := isSelfCall_spec hself
  exact ⟨hop, hops, args, hsub, hne, hns⟩

/-- for a tail child: the table handed to it holds exactly the names that come into lexical scope with it (the only tail
child to which tailrec.c hands a new table is the last expression of a block, and — since fix f0e3e9c — the arm of a record
guard that binds names), its construct keeps no names in a table of its own, and where no table is handed down no name comes
into scope -/
theorem tail_binders (e : Expr) (s : Slot) (i : Nat) (hs : specTail s = true) :
    cBinders e s i = scopeStep e s i ∧ hiddenBinders e s i = [] ∧ (opensTable e s i = false → scopeStep e s i = []) := by
  have hh : hiddenBinders e s i = [] := by
    unfold hiddenBinders
    split
    · cases hs
    · rfl
  have hnil : ∀ {l : List Name}, (!l.isEmpty) = false → l = [] := by
    intro l h
    cases l
    · rfl
    · cases h
  -- by the alternatives of `scopeStep`; in the last one the earlier alternatives are excluded
  unfold scopeStep
  split
  · exact ⟨rfl, hh, fun h => by cases h⟩
  · exact ⟨rfl, hh, hnil⟩
  · exact ⟨rfl, hh, hnil⟩
  next hseq hmatch hiflet =>
    refine ⟨?_, hh, fun _ => rfl⟩
    unfold cBinders
    split
    · exact (hseq _ rfl rfl).elim
    all_goals try cases hs
    unfold guardBinds
    split
    · exact (hmatch _ _ rfl rfl).elim
    · exact (hiflet _ _ _ _ _ _ rfl rfl).elim
    · rfl

/-- along a TAIL path the marker's lookup sees no more than the names in lexical scope -/
theorem seenAlong_tail (p : Path) : ∀ (seen pend : List Name) (e : Expr), (∀ st ∈ p, specTail st.1 = true) →
    ∀ x, x ∈ seenAlong seen pend e p → x ∈ seen ∨ x ∈ pend ∨ x ∈ tailScope e p := by
  induction p with
  | nil => intro seen pend e _ x hx; exact Or.inl hx
  | cons st p ih =>
    intro seen pend e hp x hx
    obtain ⟨s, i⟩ := st
    have ⟨hs, hp'⟩ := List.forall_mem_cons.mp hp
    obtain ⟨hc, hh, _⟩ := tail_binders e s i hs
    simp only [seenAlong, tailScope, hc, hh, List.nil_append] at hx ⊢
    cases hk : kid e s i with
    | none => rw [hk] at hx; exact Or.inl hx
    | some c =>
      rw [hk] at hx
      simp only [List.mem_append] at hx ⊢
      split at hx
      · rcases ih _ _ c hp' x hx with h | h | h
        · rcases List.mem_append.mp h with h | h
          · rcases List.mem_append.mp h with h | h
            · exact .inr (.inr (.inr h))
            · exact .inr (.inl h)
          · exact .inl h
        · cases h
        · exact .inr (.inr (.inl h))
      · rcases ih _ _ c hp' x hx with h | h | h
        · exact .inl h
        · exact .inr (.inl h)
        · exact .inr (.inr (.inl h))

theorem seenAlong_mono (p : Path) : ∀ (seen pend : List Name) (e : Expr) (x : Name), x ∈ seen → x ∈ seenAlong seen pend e p := by
  induction p with
  | nil => intro seen pend e x hx; exact hx
  | cons st p ih =>
    intro seen pend e x hx
    obtain ⟨s, i⟩ := st
    simp only [seenAlong]
    cases hk : kid e s i with
    | none => exact hx
    | some c =>
      simp only []
      split
      · exact ih _ _ _ _ (List.mem_append.mpr (Or.inr hx))
      · exact ih _ _ _ _ hx

/-- along a TAIL path the marker's lookup sees EVERY name in lexical scope (with `seenAlong_tail`: exactly those; since fix
f0e3e9c) -/
theorem tailScope_seen (p : Path) : ∀ (seen pend : List Name) (e : Expr), (∀ st ∈ p, specTail st.1 = true) →
    ∀ x, x ∈ tailScope e p → x ∈ seenAlong seen pend e p := by
  induction p with
  | nil => intro seen pend e _ x hx; cases hx
  | cons st p ih =>
    intro seen pend e hp x hx
    obtain ⟨s, i⟩ := st
    have ⟨hs, hp'⟩ := List.forall_mem_cons.mp hp
    obtain ⟨hc, _, ho⟩ := tail_binders e s i hs
    simp only [seenAlong, tailScope, hc] at hx ⊢
    cases hk : kid e s i with
    | none => rw [hk] at hx; cases hx
    | some c =>
      rw [hk] at hx
      simp only []
      rcases List.mem_append.mp hx with h | h
      · split
        · exact ih _ _ c hp' x h
        · exact ih _ _ c hp' x h
      · cases hopen : opensTable e s i with
        | false => rw [ho hopen] at h; cases h
        | true => exact seenAlong_mono p _ _ c x (List.mem_append_left _ (List.mem_append_left _ h))

end Never.Src.Tail
