import Lean.Meta.Tactic.Simp.RegisterCommand
/-- specifications of the helpers of M-VM (`Rel R (getInt a)` …), looked up by the walker tactics -/
register_simp_attr vm_spec
