import NeverModel.Lemmas.HeapBasic
set_option linter.unusedSimpArgs false
set_option linter.unusedVariables false
/-! `gc_sweep_all`: exact effect of the loop on the free chain, the lists, objects and marks -/
namespace Never
open Mem

/-- the `next`-chain from `h` visits exactly `fl` and ends at nil -/
def Chain (m : Mem) : Nat → List Nat → Prop
  | h, [] => h = 0
  | h, x :: xs => h = x ∧ x ≠ 0 ∧ x < m.size ∧ Chain m (nextAt m x) xs

theorem Chain.congr {m m' : Mem} (hsz : m'.size = m.size) :
    ∀ {fl : List Nat} {h : Nat}, (∀ x ∈ fl, nextAt m' x = nextAt m x) → Chain m h fl → Chain m' h fl := by
  intro fl
  induction fl with
  | nil => intro h _ c; exact c
  | cons x xs ih =>
    intro h hn c
    obtain ⟨h1, h2, h3, h4⟩ := c
    refine ⟨h1, h2, by rw [hsz]; exact h3, ?_⟩
    rw [hn x (by simp)]
    exact ih (fun y hy => hn y (List.mem_cons_of_mem _ hy)) h4

structure SweepRes (m : Mem) (free : Nat) (bl fl l : List Nat) (r : Mem × Nat × List Nat) : Prop where
  bl : r.2.2 = bl ++ l.filter (fun x => marked m x)
  chain : Chain r.1 r.2.1 ((l.filter (fun x => !marked m x)).reverse ++ fl)
  size : r.1.size = m.size
  obj : ∀ x, objAt r.1 x = if x ∈ l ∧ marked m x = false then none else objAt m x
  marks : ∀ x, marked r.1 x = if x ∈ l then false else marked m x

theorem sweep_fold : ∀ (l : List Nat) (m : Mem) (free : Nat) (bl fl : List Nat),
    l.Nodup → (∀ x ∈ l, (objAt m x).isSome = true ∧ x ≠ 0) → (∀ x ∈ l, x ∉ fl) → Chain m free fl →
    SweepRes m free bl fl l (l.foldl sweepStep (m, free, bl)) := by
  intro l
  induction l with
  | nil =>
    intro m free bl fl _ _ _ hc
    exact ⟨by simp, by simpa using hc, rfl, by simp, by simp⟩
  | cons x xs ih =>
    intro m free bl fl hnd hob hfl hc
    have hx_notin : x ∉ xs := (List.nodup_cons.mp hnd).1
    have hnd' : xs.Nodup := (List.nodup_cons.mp hnd).2
    obtain ⟨hxo, hx0⟩ := hob x (by simp)
    have hxlt : x < m.size := by
      cases ho : objAt m x with
      | none => simp [ho] at hxo
      | some o => exact objAt_some_lt ho
    rw [List.foldl_cons]
    by_cases hmx : marked m x = true
    · -- survivor: clear the mark, append to the other list
      have hstep : sweepStep (m, free, bl) x = (setMark m x false, free, bl ++ [x]) := by
        simp [sweepStep, hmx]
      rw [hstep]
      have r := ih (setMark m x false) free (bl ++ [x]) fl hnd'
        (by intro y hy; simpa using hob y (List.mem_cons_of_mem _ hy))
        (fun y hy => hfl y (List.mem_cons_of_mem _ hy))
        (Chain.congr (by simp) (by intro y _; simp) hc)
      have hmk : ∀ y ∈ xs, marked (setMark m x false) y = marked m y := by
        intro y hy
        have : x ≠ y := fun h => hx_notin (h ▸ hy)
        simp [marked_setMark, this]
      have hf1 : xs.filter (fun y => marked (setMark m x false) y) = xs.filter (fun y => marked m y) :=
        List.filter_congr (fun y hy => by rw [hmk y hy])
      have hf2 : xs.filter (fun y => !marked (setMark m x false) y) = xs.filter (fun y => !marked m y) :=
        List.filter_congr (fun y hy => by rw [hmk y hy])
      refine ⟨?_, ?_, ?_, ?_, ?_⟩
      · rw [r.bl, hf1]; simp [List.filter_cons, hmx]
      · have := r.chain; rw [hf2] at this; simpa [List.filter_cons, hmx] using this
      · rw [r.size]; simp
      · intro y
        rw [r.obj y]
        by_cases hyx : y = x
        · subst hyx; simp [hx_notin, hmx]
        · have hxy : x ≠ y := fun h => hyx h.symm
          simp [marked_setMark, hxy, hyx]
      · intro y
        rw [r.marks y]
        by_cases hyx : y = x
        · subst hyx; simp [hx_notin, marked_setMark, hxlt]
        · have hxy : x ≠ y := fun h => hyx h.symm
          simp [marked_setMark, hxy, hyx]
    · -- garbage: delete the object, push the cell on the free list
      have hmx' : marked m x = false := by simpa using hmx
      have hstep : sweepStep (m, free, bl) x = ((m.setObj x none).setNext x free, x, bl) := by
        simp [sweepStep, hmx', hxo]
      rw [hstep]
      have hchain1 : Chain ((m.setObj x none).setNext x free) x (x :: fl) := by
        refine ⟨rfl, hx0, by simpa using hxlt, ?_⟩
        have : nextAt ((m.setObj x none).setNext x free) x = free := by simp [nextAt_setNext, hxlt]
        rw [this]
        apply Chain.congr (by simp) _ hc
        intro y hy
        have : x ≠ y := fun h => hfl x (by simp) (h ▸ hy)
        simp [nextAt_setNext, this]
      have r := ih ((m.setObj x none).setNext x free) x bl (x :: fl) hnd'
        (by intro y hy
            have : x ≠ y := fun h => hx_notin (h ▸ hy)
            simpa [objAt_setObj, this] using hob y (List.mem_cons_of_mem _ hy))
        (by intro y hy hmem
            rcases List.mem_cons.mp hmem with h | h
            · exact hx_notin (h ▸ hy)
            · exact hfl y (List.mem_cons_of_mem _ hy) h)
        hchain1
      have hf1 : xs.filter (fun y => marked ((m.setObj x none).setNext x free) y) = xs.filter (fun y => marked m y) :=
        List.filter_congr (fun y hy => by simp)
      have hf2 : xs.filter (fun y => !marked ((m.setObj x none).setNext x free) y) = xs.filter (fun y => !marked m y) :=
        List.filter_congr (fun y hy => by simp)
      refine ⟨?_, ?_, ?_, ?_, ?_⟩
      · rw [r.bl, hf1]; simp [List.filter_cons, hmx']
      · have := r.chain; rw [hf2] at this; simpa [List.filter_cons, hmx'] using this
      · rw [r.size]; simp
      · intro y
        rw [r.obj y]
        by_cases hyx : y = x
        · subst hyx; simp [hx_notin, hmx', objAt_setObj, hxlt]
        · have hxy : x ≠ y := fun h => hyx h.symm
          simp [objAt_setObj, hxy, hyx]
      · intro y
        rw [r.marks y]
        by_cases hyx : y = x
        · subst hyx; simp [hx_notin, hmx']
        · simp [hyx]

/-- `gc_sweep_all` on a state whose other list is empty -/
theorem Gc.sweep_res (g : Gc) {fl : List Nat} (hnd : g.cur.Nodup) (hob : ∀ x ∈ g.cur, (objAt g.mem x).isSome = true ∧ x ≠ 0)
    (hfl : ∀ x ∈ g.cur, x ∉ fl) (hc : Chain g.mem g.free fl) (ho : g.oth = []) :
    SweepRes g.mem g.free [] fl g.cur (g.sweep.mem, g.sweep.free, g.sweep.cur) ∧ g.sweep.oth = [] := by
  have r := sweep_fold g.cur g.mem g.free [] fl hnd hob hfl hc
  unfold Gc.sweep
  rw [ho]
  cases hw : g.w <;> exact ⟨r, rfl⟩

end Never
