import NeverModel.Lemmas.VmFrameOps
/-! every handler of M-VM, hence every `step`, leaves the size of the stack array alone: `StackOk` is an invariant of execution -/
namespace Never.Vm
open Never Never.Num Never.Ver

instance : RegFrame SameStk where
  regs _ _ _ _ _ _ _ _ := ⟨rfl, rfl⟩
  collect _ _ h := have r := gcRunPure_regs h; ⟨by rw [r.2.2.2.2.2.2.2], r.2.2.2.2.2.2.1⟩

/-- **every handler of M-VM leaves the size of the stack array (and the configured stack size) alone** -/
theorem exec_keeps_stk (md : Module) (ins : Instr) (orc : Oracle) : KeepsStk (exec md ins orc) :=
  exec_rel (R := SameStk) md ins orc

/-- **`StackOk` is an invariant of execution**: one `step` leaves the size of the stack array and the configured stack size alone -/
theorem step_keeps_stackOk (md : Module) (orc : Oracle) (vm vm' : Vm) (hs : StackOk vm)
    (hstep : (step md orc).run vm = .ok ((), vm')) : StackOk vm' ∧ vm'.stackSize = vm.stackSize :=
  have ⟨a1, a2⟩ := step_rel (R := SameStk) md orc vm () vm' hstep
  ⟨a1.trans (hs.trans a2.symm), a2⟩

end Never.Vm
