import NeverModel.Lemmas.VerStep
set_option linter.unusedSimpArgs false
set_option linter.unusedVariables false
/-! runs of M-VM inside one activation of a verified module -/
namespace Never.Ver
open Never Never.Vm

/-- the opcodes outside the verifier's effect table -/
theorem simpleEffect_none_cases (i : Instr) (h : simpleEffect i = none) :
    i.op = .UNKNOWN ∨ i.op = .ID_FUNC_FUNC ∨
    (i.op = .FUNC_FFI ∨ i.op = .FUNC_FFI_BOOL ∨ i.op = .FUNC_FFI_INT ∨ i.op = .FUNC_FFI_LONG ∨ i.op = .FUNC_FFI_FLOAT ∨ i.op = .FUNC_FFI_DOUBLE ∨
     i.op = .FUNC_FFI_CHAR ∨ i.op = .FUNC_FFI_STRING ∨ i.op = .FUNC_FFI_VOID ∨ i.op = .FUNC_FFI_C_PTR ∨ i.op = .FUNC_FFI_RECORD) ∨
    i.op = .JUMP ∨ i.op = .MK_INIT_ARRAY ∨ i.op = .MARK ∨ i.op = .CALL ∨ i.op = .SLIDE ∨ i.op = .CLEAR_STACK ∨ i.op = .RET ∨
    i.op = .RETHROW ∨ i.op = .PUSH_PARAM ∨ i.op = .UNHANDLED_EXCEPTION ∨ i.op = .HALT := by
  obtain ⟨op, w0, w1, w2⟩ := i
  cases op
  case BUILD_IN =>
    simp only [simpleEffect, binOpOf, unOpOf, convOf, nilCmpOf, strAddOf, arrOpOf, mkArrayElem, Option.isSome_none, Bool.false_eq_true, if_false] at h
    repeat' (first | cases h | split at h)
  -- on an opcode of the table `simpleEffect` computes to `some _`
  all_goals try contradiction
  all_goals simp

/-- the handlers of the placeholder / unknown / FFI opcodes never complete in M-VM (FFI is not modelled) -/
theorem exec_unmodelled_fails (md : Module) (i : Instr) (orc : Oracle) (vm vm' : Vm)
    (hop : i.op = .UNKNOWN ∨ i.op = .ID_FUNC_FUNC ∨
      (i.op = .FUNC_FFI ∨ i.op = .FUNC_FFI_BOOL ∨ i.op = .FUNC_FFI_INT ∨ i.op = .FUNC_FFI_LONG ∨ i.op = .FUNC_FFI_FLOAT ∨ i.op = .FUNC_FFI_DOUBLE ∨
       i.op = .FUNC_FFI_CHAR ∨ i.op = .FUNC_FFI_STRING ∨ i.op = .FUNC_FFI_VOID ∨ i.op = .FUNC_FFI_C_PTR ∨ i.op = .FUNC_FFI_RECORD)) :
    ¬ ((exec md i orc).run vm = .ok ((), vm')) := by
  intro h
  obtain ⟨op, w0, w1, w2⟩ := i
  rcases hop with hop | hop | hop | hop | hop | hop | hop | hop | hop | hop | hop | hop | hop
  -- on each of these opcodes the handler computes to `exitVm _` or `crash _`
  all_goals
    cases hop
    cases h

/-- the step about to be executed stays inside the running activation: it is not a call, a return, a rethrow or the end of the
run; and if it is `MK_INIT_ARRAY`, the extents it finds on the stack are the constants the verifier recorded for that address
(they were pushed by the preceding `INT` instructions; the recorded constants are not re-proved over executions) -/
def Inside (md : Module) (hm : HMap) (vm : Vm) : Prop :=
  ∀ i, md.code[vm.ip]? = some i →
    i.op ≠ .CALL ∧ i.op ≠ .RET ∧ i.op ≠ .RETHROW ∧ i.op ≠ .HALT ∧ i.op ≠ .UNHANDLED_EXCEPTION ∧
    (i.op = .MK_INIT_ARRAY → ∀ st, hm[vm.ip]? = some (some st) → stackInts vm i.w0 vm.sp = initExts st i.w0)

section
variable {md : Module} {hm : HMap}

/-- one step from a state at its recorded height -/
theorem step_atHeight (hf : flowOk md hm = true) (orc : Oracle) (vm vm' : Vm) (hh : AtHeight md hm vm) (hin : Inside md hm vm)
    (hstep : (step md orc).run vm = .ok ((), vm')) : Succ md hm vm vm' := by
  obtain ⟨hrun, st, hs, hinv⟩ := hh
  obtain ⟨i, hi⟩ := step_fetch hstep
  obtain ⟨n1, n2, n3, n4, n5, n6⟩ := hin i hi
  cases he : simpleEffect i with
  | some pq =>
    by_cases hj : i.op = .JUMPZ
    · exact succ_branch hf orc vm vm' i st hi hs (Or.inl hj) hrun hinv hstep
    · exact succ_table hf orc vm vm' i st pq.1 pq.2 hi hs he hj hrun hinv hstep
  | none =>
    rcases simpleEffect_none_cases i he with h | h | h | h | h | h | h | h | h | h | h | h | h | h
    · obtain ⟨s2, hx, _⟩ := step_exec md orc vm vm' i hi hstep
      exact absurd hx (exec_unmodelled_fails md i orc _ _ (Or.inl h))
    · obtain ⟨s2, hx, _⟩ := step_exec md orc vm vm' i hi hstep
      exact absurd hx (exec_unmodelled_fails md i orc _ _ (Or.inr (Or.inl h)))
    · obtain ⟨s2, hx, _⟩ := step_exec md orc vm vm' i hi hstep
      exact absurd hx (exec_unmodelled_fails md i orc _ _ (Or.inr (Or.inr h)))
    · exact succ_branch hf orc vm vm' i st hi hs (Or.inr h) hrun hinv hstep
    · exact succ_MK_INIT_ARRAY hf orc vm vm' i st hi hs h hrun hinv (n6 h st hs) hstep
    · exact succ_MARK hf orc vm vm' i st hi hs h hrun hinv hstep
    · exact absurd h n1
    · exact succ_SLIDE hf orc vm vm' i st hi hs h hrun hinv hstep
    · exact succ_CLEAR_STACK hf orc vm vm' i st hi hs h hstep
    · exact absurd h n2
    · exact absurd h n3
    · exact succ_PUSH_PARAM hf orc vm vm' i st hi hs h hrun hinv hstep
    · exact absurd h n5
    · exact absurd h n4

/-- at a handler entry the instruction is a handler opcode or a LABEL -/
theorem atHandler_op {vm : Vm} (h : AtHandler md hm vm) {i : Instr} (hi : md.code[vm.ip]? = some i) :
    i.op = .CLEAR_STACK ∨ i.op = .RETHROW ∨ i.op = .UNHANDLED_EXCEPTION ∨ i.op = .LABEL := by
  have hent := h.2.1
  simp only [handlerEntry, isHandlerOp, hi, Bool.or_eq_true, Bool.and_eq_true, beq_iff_eq] at hent
  rcases hent with ((h | h) | h) | ⟨h, _⟩
  · exact Or.inl h
  · exact Or.inr (Or.inl h)
  · exact Or.inr (Or.inr (Or.inl h))
  · exact Or.inr (Or.inr (Or.inr h))

/-- a step on LABEL at a handler entry: only `ip` moves, and the next address is a handler entry again -/
theorem step_LABEL_handler (hf : flowOk md hm = true) (orc : Oracle) (vm vm' : Vm) (i : Instr) (hi : md.code[vm.ip]? = some i)
    (hop : i.op = .LABEL) (hh : AtHandler md hm vm) (hstep : (step md orc).run vm = .ok ((), vm')) :
    vm' = { vm with ip := vm.ip + 1 } ∧ AtHandler md hm vm' := by
  obtain ⟨hrun, hent, st, hs⟩ := hh
  obtain ⟨st', e1, _, _⟩ := flow_table hf hi hs (simpleEffect_op hop) (by rw [hop]; decide)
  obtain ⟨s2, hx, hcase⟩ := step_exec md orc vm vm' i hi hstep
  -- the handler of LABEL computes to `pure ()`
  have e2 : s2 = { vm with ip := vm.ip + 1 } := by
    cases i
    cases hop
    cases hx
    rfl
  subst e2
  rcases hcase with ⟨_, rfl⟩ | ⟨h2, _⟩
  · refine ⟨rfl, hrun, ?_, st', e1⟩
    simp only [handlerEntry, hi, hop, Bool.or_eq_true, Bool.and_eq_true] at hent
    rcases hent with hent | ⟨_, hnext⟩
    · cases hent
    · unfold handlerEntry
      rw [hnext]
      rfl
  · simp only at h2; omega

/-- one step from a handler entry: a `LABEL` is skipped, `CLEAR_STACK` re-establishes the height invariant -/
theorem step_atHandler (hf : flowOk md hm = true) (orc : Oracle) (vm vm' : Vm) (hh : AtHandler md hm vm) (hin : Inside md hm vm)
    (hstep : (step md orc).run vm = .ok ((), vm')) : Succ md hm vm vm' := by
  obtain ⟨i, hi⟩ := step_fetch hstep
  obtain ⟨_, _, n3, _, n5, _⟩ := hin i hi
  obtain ⟨st, hs⟩ := hh.2.2
  rcases atHandler_op hh hi with h | h | h | h
  · exact succ_CLEAR_STACK hf orc vm vm' i st hi hs h hstep
  · exact absurd h n3
  · exact absurd h n5
  · obtain ⟨e, hh'⟩ := step_LABEL_handler hf orc vm vm' i hi h hh hstep
    subst e
    exact ⟨rfl, rfl, Or.inr (Or.inl ⟨hh', Or.inl rfl⟩)⟩

/-- the invariant of a run inside one activation: at a recorded height, or at a handler entry -/
def Good (md : Module) (hm : HMap) (vm : Vm) : Prop := AtHeight md hm vm ∨ AtHandler md hm vm

theorem step_good (hf : flowOk md hm = true) (orc : Oracle) (vm vm' : Vm) (hg : Good md hm vm) (hin : Inside md hm vm)
    (hstep : (step md orc).run vm = .ok ((), vm')) : Succ md hm vm vm' := by
  rcases hg with hg | hg
  · exact step_atHeight hf orc vm vm' hg hin hstep
  · exact step_atHandler hf orc vm vm' hg hin hstep

end

/-- `vm'` is reached from `vm` by `n` iterations of the `vm_execute` loop — each from a running machine, each with some results
of its external calls —, all of them started in states satisfying `P` -/
inductive RunsTo (md : Module) (P : Vm → Prop) : Nat → Vm → Vm → Prop
  | zero (vm : Vm) : RunsTo md P 0 vm vm
  | succ {n : Nat} {vm v1 v2 : Vm} (orc : Oracle) : vm.running = 1 → P vm → (step md orc).run vm = .ok ((), v1) →
      RunsTo md P n v1 v2 → RunsTo md P (n + 1) vm v2

/-- `n` iterations of the `vm_execute` loop as a function (`while (running == VM_RUNNING) step`), `orc k` = results of the
external calls of the step with `k` steps still to go -/
def run (md : Module) (orc : Nat → Oracle) : Nat → Vm → Except Stop Vm
  | 0, vm => .ok vm
  | n+1, vm =>
    if vm.running ≠ 1 then .ok vm else
    match (step md (orc n)).run vm with
    | .ok (_, vm') => run md orc n vm'
    | .error e => .error e

theorem run_runsTo (md : Module) (orc : Nat → Oracle) : ∀ (n : Nat) (vm vm' : Vm), run md orc n vm = .ok vm' →
    ∃ k, k ≤ n ∧ RunsTo md (fun _ => True) k vm vm' := by
  intro n
  induction n with
  | zero => intro vm vm' h; unfold run at h; cases h; exact ⟨0, Nat.le_refl _, .zero _⟩
  | succ n ih =>
    intro vm vm' h
    unfold run at h
    split at h
    · cases h; exact ⟨0, Nat.zero_le _, .zero _⟩
    · rename_i hr
      split at h
      · rename_i u v1 hs
        obtain ⟨k, hk, r⟩ := ih _ _ h
        cases u
        exact ⟨k + 1, by omega, .succ (orc n) (by omega) trivial hs r⟩
      · cases h

section
variable {md : Module} {hm : HMap}

/-- **runs inside one activation keep the invariant** -/
theorem runsTo_good (hf : flowOk md hm = true) : ∀ (n : Nat) (vm vm' : Vm), Good md hm vm → RunsTo md (Inside md hm) n vm vm' →
    vm'.pp = vm.pp ∧ vm'.stackSize = vm.stackSize ∧ (Good md hm vm' ∨ vm'.running = 3) := by
  intro n
  induction n with
  | zero => intro vm vm' hg hr; cases hr; exact ⟨rfl, rfl, Or.inl hg⟩
  | succ n ih =>
    intro vm vm' hg hr
    cases hr with
    | succ orc hrun hin hstep hrest =>
      rename_i v1
      obtain ⟨a1, a2, a3⟩ := step_good hf orc vm v1 hg hin hstep
      rcases a3 with ⟨a3, _⟩ | ⟨a3, _⟩ | a3
      · obtain ⟨b1, b2, b3⟩ := ih v1 vm' (Or.inl a3) hrest
        exact ⟨by omega, by omega, b3⟩
      · obtain ⟨b1, b2, b3⟩ := ih v1 vm' (Or.inr a3) hrest
        exact ⟨by omega, by omega, b3⟩
      · -- stopped: no further step
        cases hrest with
        | zero => exact ⟨a1, a2, Or.inr a3⟩
        | succ orc' hrun' _ _ _ => omega

end
end Never.Ver

namespace Never.Ver
open Never Never.Vm

/-- a run all of whose intermediate states satisfy `P` is a `P`-run -/
theorem runsTo_strengthen (md : Module) (P : Vm → Prop) : ∀ (n : Nat) (vm vm' : Vm), RunsTo md (fun _ => True) n vm vm' →
    (∀ k v, k < n → RunsTo md (fun _ => True) k vm v → v.running = 1 → P v) → RunsTo md P n vm vm' := by
  intro n
  induction n with
  | zero => intro vm vm' h _; cases h; exact .zero _
  | succ n ih =>
    intro vm vm' h hp
    cases h with
    | succ orc hrun _ hstep hrest =>
      rename_i v1
      refine .succ orc hrun (hp 0 vm (Nat.succ_pos _) (.zero _) hrun) hstep (ih _ _ hrest ?_)
      intro k v hk hr hv
      exact hp (k + 1) v (by omega) (.succ orc hrun trivial hstep hr) hv

end Never.Ver

namespace Never.Ver
open Never Never.Vm

/-! ### `Inside` as a decidable check on concrete runs (for non-vacuity examples) -/

def insideB (md : Module) (hm : HMap) (vm : Vm) : Bool :=
  match md.code[vm.ip]? with
  | some i =>
    i.op != .CALL && i.op != .RET && i.op != .RETHROW && i.op != .HALT && i.op != .UNHANDLED_EXCEPTION &&
    (i.op != .MK_INIT_ARRAY || (match hm[vm.ip]? with | some (some st) => stackInts vm i.w0 vm.sp == initExts st i.w0 | _ => true))
  | none => true

theorem insideB_sound {md : Module} {hm : HMap} {vm : Vm} (h : insideB md hm vm = true) : Inside md hm vm := by
  intro i hi
  unfold insideB at h
  rw [hi] at h
  simp only [Bool.and_eq_true, Bool.or_eq_true, bne_iff_ne, ne_eq] at h
  obtain ⟨⟨⟨⟨⟨c1, c2⟩, c3⟩, c4⟩, c5⟩, c6⟩ := h
  refine ⟨c1, c2, c3, c4, c5, fun hop st hst => ?_⟩
  rcases c6 with c6 | c6
  · exact absurd hop c6
  · rw [hst] at c6; simpa using c6

/-- run up to `n` steps while the machine is running and `Inside` its activation; `none` if a step is not -/
def runInB (md : Module) (hm : HMap) (orc : Nat → Oracle) : Nat → Vm → Option Vm
  | 0, vm => some vm
  | n+1, vm =>
    if vm.running ≠ 1 then some vm else
    if !insideB md hm vm then none else
    match (step md (orc n)).run vm with
    | .ok (_, v1) => runInB md hm orc n v1
    | .error _ => none

theorem runInB_runsTo (md : Module) (hm : HMap) (orc : Nat → Oracle) : ∀ (n : Nat) (vm vm' : Vm),
    runInB md hm orc n vm = some vm' → ∃ k, RunsTo md (Inside md hm) k vm vm' := by
  intro n
  induction n with
  | zero => intro vm vm' h; unfold runInB at h; cases h; exact ⟨0, .zero _⟩
  | succ n ih =>
    intro vm vm' h
    unfold runInB at h
    split at h
    · cases h; exact ⟨0, .zero _⟩
    · rename_i hr
      split at h
      · cases h
      · rename_i hb
        split at h
        · rename_i u v1 hs
          obtain ⟨k, hk⟩ := ih _ _ h
          cases u
          exact ⟨k + 1, .succ (orc n) (by omega) (insideB_sound (by simpa using hb)) hs hk⟩
        · cases h

end Never.Ver
