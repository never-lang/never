import NeverModel.Model.Verify
set_option linter.unusedSimpArgs false
set_option linter.unusedVariables false
/-! the certificate re-check `flowOk` of M-Ver, taken apart: what it says at one address -/
namespace Never.Ver
open Never Never.Vm

/-- the table entry of an instruction whose opcode is known: with `op` a constructor the right side computes, so this proves
`simpleEffect i = none` for a frame opcode and `simpleEffect i = some (p, q)` for an opcode of the table -/
theorem simpleEffect_op {i : Instr} {op : Opc} (hop : i.op = op) : simpleEffect i = simpleEffect ⟨op, i.w0, i.w1, i.w2⟩ := by
  cases i
  cases hop
  rfl

theorem lt_size_of_getElem? {α} {xs : Array α} {a : Nat} {x : α} (h : xs[a]? = some x) : a < xs.size := by
  rcases Nat.lt_or_ge a xs.size with h' | h'
  · exact h'
  · rw [Array.getElem?_eq_none (by omega)] at h; cases h

/-- a test of the abstract state recorded at `t` that fails where nothing is recorded -/
theorem hm_some {hm : HMap} {t : Nat} {P : AbsSt → Bool}
    (h : (match hm[t]? with | some (some s') => P s' | _ => false) = true) : ∃ s', hm[t]? = some (some s') ∧ P s' = true := by
  split at h
  · exact ⟨_, ‹_›, h⟩
  · cases h

theorem flowOk_spec {md : Module} {hm : HMap} (h : flowOk md hm = true) :
    (∀ a, a < md.code.size → flowOkAt md hm a = true ∧ frameOkAt md (funcStarts md) hm a = true ∧ pendOkAt md hm a = true) ∧
    handlersOk md hm = true ∧ startsOk md (funcStarts md) hm = true ∧ entryOk md (funcStarts md) hm = true := by
  simp only [flowOk, Bool.and_eq_true, List.all_eq_true, List.mem_range, and_assoc] at h
  exact h

section
variable {md : Module} {hm : HMap} (hf : flowOk md hm = true)
include hf

theorem flow_at {a : Nat} {i : Instr} (hi : md.code[a]? = some i) : flowOkAt md hm a = true :=
  ((flowOk_spec hf).1 a (lt_size_of_getElem? hi)).1

theorem frame_at {a : Nat} {i : Instr} (hi : md.code[a]? = some i) : frameOkAt md (funcStarts md) hm a = true :=
  ((flowOk_spec hf).1 a (lt_size_of_getElem? hi)).2.1

theorem flowOk_pend {a : Nat} (ha : a < md.code.size) : pendOkAt md hm a = true :=
  ((flowOk_spec hf).1 a ha).2.2

theorem pend_at {a : Nat} {i : Instr} (hi : md.code[a]? = some i) : pendOkAt md hm a = true :=
  flowOk_pend hf (lt_size_of_getElem? hi)

theorem flowOk_starts {a : Nat} (ha : a ∈ funcStarts md) :
    ∃ st, hm[a]? = some (some st) ∧ st.h = 0 ∧ st.marks = [] ∧ intRun md a = [] := by
  have h := List.all_eq_true.mp (flowOk_spec hf).2.2.1 a ha
  simp only [Bool.and_eq_true, List.isEmpty_iff] at h
  obtain ⟨st, e, h1⟩ := hm_some h.1
  simp only [Bool.and_eq_true, beq_iff_eq] at h1
  exact ⟨st, e, h1.1, h1.2, h.2⟩

theorem flowOk_entry : ∃ st, hm[0]? = some (some st) ∧ npAt md (funcStarts md) 0 + st.h = 0 ∧ st.marks = [] := by
  obtain ⟨st, e, h⟩ := hm_some (flowOk_spec hf).2.2.2
  simp only [Bool.and_eq_true, beq_iff_eq] at h
  exact ⟨st, e, h⟩

end

theorem hAt_spec {starts : List Nat} {hm : HMap} {a t k : Nat} (h : hAt starts hm a t k = true) :
    ∃ s', hm[t]? = some (some s') ∧ s'.h = k ∧ sameFn starts a t = true := by
  obtain ⟨s', e, h⟩ := hm_some h
  simp only [Bool.and_eq_true, beq_iff_eq] at h
  exact ⟨s', e, h⟩

theorem sameFn_np {md : Module} {starts : List Nat} {a t : Nat} (h : sameFn starts a t = true) :
    npAt md starts t = npAt md starts a ∧ topAt starts t = topAt starts a := by
  have e : regionStart starts a = regionStart starts t := by simpa [sameFn] using h
  unfold npAt paramsAt topAt
  rw [e]; exact ⟨rfl, rfl⟩

/-! ### what `frameOkAt` says for each opcode it re-checks -/

section
variable {md : Module} {starts : List Nat} {hm : HMap} {a : Nat} {i : Instr} {s : AbsSt}
  (hi : md.code[a]? = some i) (hs : hm[a]? = some (some s))
include hi hs

theorem frameOkAt_MARK (hop : i.op = .MARK) (h : frameOkAt md starts hm a = true) :
    hAt starts hm a i.w0 (s.h + 1) = true ∧ hAt starts hm a (a + 1) (s.h + 5) = true := by
  simpa only [frameOkAt, hi, hs, hop, Bool.and_eq_true] using h

theorem frameOkAt_CALL (hop : i.op = .CALL) (h : frameOkAt md starts hm a = true) :
    (markedCall md a = true ∧ 1 ≤ s.h) ∨ (markedCall md a = false ∧ s.h = 1) := by
  simp only [frameOkAt, hi, hs, hop] at h
  split at h
  · exact Or.inl ⟨‹_›, of_decide_eq_true h⟩
  · exact Or.inr ⟨Bool.eq_false_iff.mpr ‹_›, beq_iff_eq.mp h⟩

theorem frameOkAt_RET (hop : i.op = .RET) (h : frameOkAt md starts hm a = true) : s.h = 1 := by
  simpa only [frameOkAt, hi, hs, hop, beq_iff_eq] using h

theorem frameOkAt_CLEAR_STACK (hop : i.op = .CLEAR_STACK) (h : frameOkAt md starts hm a = true) :
    i.w0 = npAt md starts a ∧ hAt starts hm a (a + 1) 0 = true := by
  simpa only [frameOkAt, hi, hs, hop, Bool.and_eq_true, beq_iff_eq] using h

theorem frameOkAt_PUSH_PARAM (hop : i.op = .PUSH_PARAM) (h : frameOkAt md starts hm a = true) :
    hAt starts hm a (a + 1) (s.h + md.params.length) = true := by
  simpa only [frameOkAt, hi, hs, hop] using h

theorem frameOkAt_SLIDE (hop : i.op = .SLIDE) (h : frameOkAt md starts hm a = true) :
    (i.w0 = 0 ∧ hAt starts hm a (a + 1) s.h = true) ∨
    (i.w0 ≠ 0 ∧ i.w0 + i.w1 ≤ s.h ∧ hAt starts hm a (a + 1) (s.h - i.w0) = true) ∨
    (i.w0 ≠ 0 ∧ s.h < i.w0 + i.w1 ∧ s.h = i.w0 + 1 ∧ i.w1 = npAt md starts a + 1 ∧ (md.code[a + 1]?.map (·.op)) = some .CALL ∧
      hAt starts hm a (a + 1) 1 = true) := by
  simp only [frameOkAt, hi, hs, hop, beq_iff_eq] at h
  split at h
  · exact Or.inl ⟨‹_›, h⟩
  · split at h
    · exact Or.inr (Or.inl ⟨‹_›, ‹_›, h⟩)
    · simp only [Bool.and_eq_true, beq_iff_eq] at h
      exact Or.inr (Or.inr ⟨‹_›, by omega, h.1.1.1, h.1.1.2, h.1.2, h.2⟩)

theorem frameOkAt_MK_INIT_ARRAY (hop : i.op = .MK_INIT_ARRAY) (h : frameOkAt md starts hm a = true) :
    ∃ ds, initExts s i.w0 = some ds ∧ extsCount ds < 4294967296 ∧ i.w0 + extsCount ds ≤ s.h ∧
      hAt starts hm a (a + 1) (s.h - (i.w0 + extsCount ds) + 1) = true := by
  simp only [frameOkAt, hi, hs, hop] at h
  split at h
  · simp only [Bool.and_eq_true, decide_eq_true_eq] at h
    exact ⟨_, ‹_›, h.1.1, h.1.2, h.2⟩
  · cases h

theorem frameOkAt_JUMP (hop : i.op = .JUMP) (h : frameOkAt md starts hm a = true) :
    sameFn starts a ((a : Int) + 1 + i32 i.w0).toNat = true := by
  simpa only [frameOkAt, hi, hs, hop] using h

theorem frameOkAt_JUMPZ (hop : i.op = .JUMPZ) (h : frameOkAt md starts hm a = true) :
    sameFn starts a ((a : Int) + 1 + i32 i.w0).toNat = true ∧ sameFn starts a (a + 1) = true := by
  simpa only [frameOkAt, hi, hs, hop, Bool.and_eq_true] using h

theorem frameOkAt_reach {d : Int} (hd : frameDist i = some d) (h : frameOkAt md starts hm a = true) :
    reachB (topAt starts a) (npAt md starts a) s.h d = true := by
  unfold frameDist at hd
  simp only [frameOkAt, hi, hs] at h
  split at hd <;> rename_i hop <;> first
    | (cases hd; simp only [hop, Bool.and_eq_true] at h; exact h.1)
    | cases hd

/-- every fall-through edge of the effect table stays inside its function -/
theorem frameOkAt_next {p q : Nat} (he : simpleEffect i = some (p, q)) (h : frameOkAt md starts hm a = true) :
    sameFn starts a (a + 1) = true := by
  simp only [frameOkAt, hi, hs] at h
  split at h
  all_goals (rename_i hop)
  -- the opcodes `frameOkAt` names: those of the table carry the test, the frame opcodes have no table entry; then the others
  all_goals first
    | exact (Bool.and_eq_true_iff.mp h).2
    | exact nomatch (simpleEffect_op hop).symm.trans he
    | simpa only [he, Option.isNone_some, Bool.false_or] using h

end

/-! ### what `pendOkAt` says: the calls in preparation -/

theorem mAt_spec {hm : HMap} {t : Nat} {ms : List Nat} (h : mAt hm t ms = true) : ∃ s', hm[t]? = some (some s') ∧ s'.marks = ms := by
  obtain ⟨s', e, h⟩ := hm_some h
  exact ⟨s', e, beq_iff_eq.mp h⟩

/-- the marks recorded at address `a` (none if unreached) -/
def marksAt (hm : HMap) (a : Nat) : List Nat := match hm[a]? with | some (some st) => st.marks | _ => []

theorem marksAt_eq {hm : HMap} {a : Nat} {st : AbsSt} (h : hm[a]? = some (some st)) : marksAt hm a = st.marks := by
  unfold marksAt; rw [h]

theorem mAt_marksAt {hm : HMap} {t : Nat} {ms : List Nat} (h : mAt hm t ms = true) : marksAt hm t = ms := by
  obtain ⟨s', e1, e2⟩ := mAt_spec h
  rw [marksAt_eq e1, e2]

section
variable {md : Module} {hm : HMap} {a : Nat} {i : Instr} {s : AbsSt}

theorem pendOkAt_nested (hi : md.code[a]? = some i) (hs : hm[a]? = some (some s))
    (h : pendOkAt md hm a = true) : marksNested s.h s.marks = true := by
  simp only [pendOkAt, hi, hs, Bool.and_eq_true] at h
  exact h.1.1

theorem pendOkAt_word (hi : md.code[a]? = some i) (hs : hm[a]? = some (some s)) {d : Int} (hd : frameDist i = some d)
    (h : pendOkAt md hm a = true) : notPendingWord s.h s.marks d = true := by
  simp only [pendOkAt, hi, hs, hd, Bool.and_eq_true] at h
  exact h.1.2

theorem pendOkAt_MARK (hi : md.code[a]? = some i) (hs : hm[a]? = some (some s))
    (hop : i.op = .MARK) (h : pendOkAt md hm a = true) :
    mAt hm (a + 1) (s.h :: s.marks) = true ∧ mAt hm i.w0 s.marks = true ∧ intRun md i.w0 = [] := by
  simp only [pendOkAt, hi, hs, hop, Bool.and_eq_true, List.isEmpty_iff] at h
  exact ⟨h.2.1.1, h.2.1.2, h.2.2⟩

theorem pendOkAt_SLIDE (hi : md.code[a]? = some i) (hs : hm[a]? = some (some s))
    (hop : i.op = .SLIDE) (h : pendOkAt md hm a = true) :
    (i.w0 = 0 ∧ mAt hm (a + 1) s.marks = true) ∨
    (i.w0 ≠ 0 ∧ i.w0 + i.w1 ≤ s.h ∧ pendFloor s.marks + i.w0 + i.w1 ≤ s.h ∧ mAt hm (a + 1) s.marks = true) ∨
    (i.w0 ≠ 0 ∧ s.h < i.w0 + i.w1 ∧ s.marks = [] ∧ mAt hm (a + 1) [] = true) := by
  simp only [pendOkAt, hi, hs, hop, Bool.and_eq_true, beq_iff_eq] at h
  have h2 := h.2
  split at h2
  · exact Or.inl ⟨‹_›, h2⟩
  · split at h2
    · simp only [Bool.and_eq_true, decide_eq_true_eq] at h2
      exact Or.inr (Or.inl ⟨‹_›, ‹_›, h2⟩)
    · simp only [Bool.and_eq_true, beq_iff_eq] at h2
      exact Or.inr (Or.inr ⟨‹_›, by omega, h2⟩)

theorem pendOkAt_CLEAR_STACK (hi : md.code[a]? = some i) (hs : hm[a]? = some (some s))
    (hop : i.op = .CLEAR_STACK) (h : pendOkAt md hm a = true) : mAt hm (a + 1) [] = true := by
  simp only [pendOkAt, hi, hs, hop, Bool.and_eq_true] at h
  exact h.2

theorem pendOkAt_CALL (hi : md.code[a]? = some i) (hs : hm[a]? = some (some s))
    (hop : i.op = .CALL) (h : pendOkAt md hm a = true) : pendFloor s.marks + 1 ≤ s.h := by
  simp only [pendOkAt, hi, hs, hop, Bool.and_eq_true, decide_eq_true_eq] at h
  exact h.2

theorem pendOkAt_PUSH_PARAM (hi : md.code[a]? = some i) (hs : hm[a]? = some (some s))
    (hop : i.op = .PUSH_PARAM) (h : pendOkAt md hm a = true) : mAt hm (a + 1) s.marks = true := by
  simp only [pendOkAt, hi, hs, hop, Bool.and_eq_true] at h
  exact h.2

theorem pendOkAt_MK_INIT_ARRAY (hi : md.code[a]? = some i) (hs : hm[a]? = some (some s))
    (hop : i.op = .MK_INIT_ARRAY) (h : pendOkAt md hm a = true) :
    ∃ ds, initExts s i.w0 = some ds ∧ pendFloor s.marks + i.w0 + extsCount ds ≤ s.h ∧ mAt hm (a + 1) s.marks = true ∧
      i.w0 ≤ (intRun md a).length ∧ ds = (intRun md a).take i.w0 := by
  simp only [pendOkAt, hi, hs, hop, Bool.and_eq_true] at h
  have h2 := h.2
  split at h2
  · simp only [Bool.and_eq_true, decide_eq_true_eq, beq_iff_eq] at h2
    exact ⟨_, ‹_›, h2.1.1.1, h2.1.1.2, h2.1.2, h2.2⟩
  · cases h2

theorem pendOkAt_JUMP (hi : md.code[a]? = some i) (hs : hm[a]? = some (some s))
    (hop : i.op = .JUMP) (h : pendOkAt md hm a = true) :
    mAt hm ((a : Int) + 1 + i32 i.w0).toNat s.marks = true ∧ intRun md ((a : Int) + 1 + i32 i.w0).toNat = [] := by
  simp only [pendOkAt, hi, hs, hop, Bool.and_eq_true, List.isEmpty_iff] at h
  exact h.2

theorem pendOkAt_JUMPZ (hi : md.code[a]? = some i) (hs : hm[a]? = some (some s))
    (hop : i.op = .JUMPZ) (h : pendOkAt md hm a = true) :
    pendFloor s.marks + 1 ≤ s.h ∧ mAt hm ((a : Int) + 1 + i32 i.w0).toNat s.marks = true ∧ mAt hm (a + 1) s.marks = true ∧
    intRun md ((a : Int) + 1 + i32 i.w0).toNat = [] := by
  simp only [pendOkAt, hi, hs, hop, Bool.and_eq_true, decide_eq_true_eq, List.isEmpty_iff] at h
  exact ⟨h.2.1.1.1, h.2.1.1.2, h.2.1.2, h.2.2⟩

/-- an instruction of the effect table (not JUMPZ): after popping its operands it still stands at or above the innermost pending
record, and its successor carries the same marks -/
theorem pendOkAt_table (hi : md.code[a]? = some i) (hs : hm[a]? = some (some s))
    {p q : Nat} (he : simpleEffect i = some (p, q)) (hj : i.op ≠ .JUMPZ) (h : pendOkAt md hm a = true) :
    pendFloor s.marks + p ≤ s.h ∧ mAt hm (a + 1) s.marks = true := by
  simp only [pendOkAt, hi, hs, Bool.and_eq_true] at h
  have h2 := h.2
  split at h2
  all_goals (rename_i hop)
  all_goals first
    | exact absurd hop hj
    | exact nomatch (simpleEffect_op hop).symm.trans he
    | simpa only [he, Bool.and_eq_true, decide_eq_true_eq] using h2

end

/-- behind an instruction that is not `INT` no constant run continues; behind `INT c` it is `c ::` the run before it -/
theorem intRun_succ (md : Module) (a : Nat) (i : Instr) (hi : md.code[a]? = some i) :
    intRun md (a + 1) = if i.op = .INT then (bv32 i.w0).toInt :: intRun md a else [] := by
  show (match md.code[a]? with | some i => if i.op == Opc.INT then (bv32 i.w0).toInt :: intRun md a else [] | none => []) = _
  rw [hi]
  by_cases h : i.op = .INT <;> simp [h]

theorem marksNested_floor : ∀ {h : Nat} {ms : List Nat}, marksNested h ms = true → pendFloor ms ≤ h
  | _, [], _ => Nat.zero_le _
  | _, _ :: _, hn => of_decide_eq_true (Bool.and_eq_true_iff.mp hn).1

end Never.Ver
