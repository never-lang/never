import NeverModel.Lemmas.VmEffectLoops
import NeverModel.Lemmas.Frame
/-! `NoWr f`: `f` leaves the stack array alone — every helper that only reads the stack and works on the heap / registers.  It is
`Rel SameStack`, so the facts come from the shared specifications (`rel_*`). -/
namespace Never.Vm
open Never Never.Num

/-- a computation that does not write the stack array -/
def NoWr {α} (f : M α) : Prop := ∀ vm a vm', f.run vm = .ok (a, vm') → vm'.stack = vm.stack

/-- the stack array is untouched: `NoWr f` is `Rel SameStack f` -/
def SameStack (vm vm' : Vm) : Prop := vm'.stack = vm.stack

instance : Frame SameStack where
  refl _ := rfl
  trans h1 h2 := h2.trans h1
  out _ _ := rfl
  line _ _ := rfl
  stop _ _ _ _ := rfl
  alloc _ _ _ _ _ := rfl
  store _ _ _ _ := rfl
instance : SpFrame SameStack := ⟨fun _ _ => rfl⟩
instance : HeapFrame SameStack := ⟨fun _ _ => rfl⟩
instance : IpFrame SameStack := ⟨fun _ _ => rfl⟩

theorem NoWr.of_rel {α} {f : M α} (h : Rel SameStack f) : NoWr f := h

theorem NoWr.pure {α} (a : α) : NoWr (Pure.pure a : M α) := Rel.pure (R := SameStack) a

theorem nowr_getArrElem (a i : Nat) : NoWr (getArrElem a i) := rel_getArrElem (R := SameStack) a i

macro "nowr" : tactic => `(tactic| first | (refine NoWr.of_rel ?_; vm_rel))

macro "nowr1" : tactic => `(tactic| first | (refine NoWr.of_rel ?_; simp only [vm_spec, implies_true]; done))

end Never.Vm
