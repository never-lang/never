import NeverModel.Lemmas.FfiLayout
/-! the unpacking walk (`newField`/`newLoop`, i.e. `vm_execute_func_ffi_record_new`) reads back
what the packing walk stored -/
namespace Never.Ffi

theorem sextByte_small (x : Nat) (h : x < 2) : sextByte x = x := by
  simp [sextByte]; omega

theorem loadPrim_spec (p : Prim) (v : FVal) (buf2 b' : Buf) (o : Nat)
    (hty : HasTy v (.prim p) = true) (hnf : NilFree v = true) (hb : o + primSize p ≤ buf2.size)
    (hag : ∀ i, o ≤ i → i < o + primSize p → buf2.get i = b'.get i)
    (hrd : readLE b'.get o (primSize p) = payload v) : loadPrim p buf2 o = some v := by
  have hc := readLE_congr buf2.get b'.get o (primSize p) hag
  cases p <;> cases v <;> simp only [HasTy, decide_eq_true_eq, Bool.false_eq_true] at hty
  all_goals simp only [primSize] at hb hc hrd
  all_goals simp only [loadPrim, Buf.read, hb, if_true, Option.map_some, hc, hrd, payload]
  · rw [sextByte_small _ hty]
  · rename_i q
    cases q with
    | none => simp [NilFree] at hnf
    | some q => simp

mutual
theorem newField_spec : (t : FTy) → (d : Desc) → (code rest : List Desc) →
    (hemit : (emitParam t).1 ++ rest = d :: code) → (v : FVal) → (hty : HasTy v t = true) →
    (hnf : NilFree v = true) →
    (base rel : Nat) → (buf : Buf) → (off : BitVec 32) → (hoff : off.toNat = base + rel) →
    (hal : cAlign t ∣ base) → (hb : base + roundUp rel (cAlign t) + cSize t ≤ buf.size) →
    (hs : buf.size < 2 ^ 32) →
    (r : VRes) → (hr : valueField t d v code buf off = some r) →
    (buf2 : Buf) → (hsz : buf2.size = buf.size) →
    (hag : ∀ i, base + roundUp rel (cAlign t) ≤ i → i < base + roundUp rel (cAlign t) + cSize t →
      buf2.get i = r.buf.get i) →
    ∃ r', newField t d code buf2 off = some r' ∧ r'.val = v ∧ r'.code = rest ∧
      r'.off.toNat = base + roundUp rel (cAlign t) + cSize t ∧
      r'.trace = cLeaves t (base + roundUp rel (cAlign t))
  | .prim p, d, code, rest, hemit, v, hty, hnf, base, rel, buf, off, hoff, hal, hb, hs, r, hr, buf2, hsz, hag => by
    simp only [emitParam, List.cons_append, List.nil_append, List.cons.injEq] at hemit
    obtain ⟨rfl, rfl⟩ := hemit
    have ho := align32_base_add off base rel _ (cAlign_isAl (.prim p)) hoff hal (by simp only [cSize] at hb; omega)
    simp only [cSize] at hb hag
    obtain ⟨b', isNil, h1, h2, h3, h4, h5⟩ := storePrim_spec p v buf
      (align32 off (BitVec.ofNat 32 (elAlign (.prim p)))).toNat hty (by rw [ho]; exact hb)
    simp only [valueField, h1, Option.some.injEq] at hr
    subst hr
    simp only at hag
    have hl := loadPrim_spec p v buf2 b' (align32 off (BitVec.ofNat 32 (elAlign (.prim p)))).toNat
      hty hnf (by rw [ho, hsz]; exact hb) (by rw [ho]; exact hag) (h5 hnf).1
    simp only [newField, hl]
    refine ⟨_, rfl, rfl, rfl, ?_, ?_⟩
    · simp only [elSize, cSize]
      rw [add32_toNat _ _ (by rw [ho]; omega), ho]
    · simp only [cLeaves, ho]
  | .record fs, d, code, rest, hemit, v, hty, hnf, base, rel, buf, off, hoff, hal, hb, hs, r, hr, buf2, hsz, hag => by
    rw [emitParam_record] at hemit
    simp only [List.cons_append, List.cons.injEq] at hemit
    obtain ⟨rfl, rfl⟩ := hemit
    have hsz2 := cEnd_le_cSize fs
    obtain ⟨ho, hoe, hdv⟩ := record_frame fs off base rel hoff hal (by omega)
    -- the callee's own align is the identity: the offset is already aligned
    have hro2 : align32 (align32 off (BitVec.ofNat 32 (elAlign (.record fs)))) (BitVec.ofNat 32 (cAlignF fs))
        = align32 off (BitVec.ofNat 32 (elAlign (.record fs))) := by
      apply BitVec.eq_of_toNat_eq
      have hfix : roundUp (base + roundUp rel (cAlign (.record fs))) (cAlignF fs)
          = base + roundUp rel (cAlign (.record fs)) :=
        roundUp_of_dvd _ _ (cAlignF_isAl fs).pos hdv
      rw [align32_toNat _ _ (cAlignF_isAl fs) (by rw [ho, hfix]; omega), ho, hfix]
    cases v with
    | record inner =>
      simp only [HasTy] at hty
      simp only [NilFree] at hnf
      obtain ⟨r0, hr0, s0⟩ := valueLoop_spec fs rest inner hty
        (base + roundUp rel (cAlign (.record fs))) 0 buf _ (by rw [ho]; rfl) hdv (by omega) hs
      simp only [valueField, hr0, Option.some.injEq] at hr
      subst hr
      simp only at hag
      obtain ⟨r', hr', e1, e2, _, e4⟩ := newLoop_spec fs rest inner hty hnf
        (base + roundUp rel (cAlign (.record fs))) 0 buf _ (by rw [ho]; rfl) hdv (by omega) hs
        r0 hr0 buf2 hsz (fun i h1 h2 => hag i (by omega) (by omega))
      simp only [newField, hro2, hr']
      refine ⟨_, rfl, ?_, e2, hoe, ?_⟩
      · simp only [e1]
      · simpa [cLeaves] using e4
    | nilrec => simp [NilFree] at hnf
    | _ => simp [HasTy] at hty
theorem newLoop_spec : (fs : FTys) → (rest : List Desc) → (vs : FVals) → (hty : HasTys vs fs = true) →
    (hnf : NilFreeL vs = true) →
    (base rel : Nat) → (buf : Buf) → (off : BitVec 32) → (hoff : off.toNat = base + rel) →
    (hal : cAlignF fs ∣ base) → (hb : base + cEnd fs rel ≤ buf.size) → (hs : buf.size < 2 ^ 32) →
    (r : VRes) → (hr : valueLoop fs fs.length vs ((emitList fs).1 ++ rest) buf off = some r) →
    (buf2 : Buf) → (hsz : buf2.size = buf.size) →
    (hag : ∀ i, base + rel ≤ i → i < base + cEnd fs rel → buf2.get i = r.buf.get i) →
    ∃ r', newLoop fs fs.length ((emitList fs).1 ++ rest) buf2 off = some r' ∧ r'.vals = vs ∧
      r'.code = rest ∧ r'.off.toNat = base + cEnd fs rel ∧ r'.trace = cLeavesF fs base rel
  | .nil, rest, vs, hty, hnf, base, rel, buf, off, hoff, hal, hb, hs, r, hr, buf2, hsz, hag => by
    cases vs <;> simp only [HasTys, Bool.false_eq_true] at hty
    simp only [FTys.length, newLoop, emitList, List.nil_append]
    exact ⟨_, rfl, rfl, rfl, by simp [cEnd, hoff], by simp [cLeavesF]⟩
  | .cons t ts, rest, vs, hty, hnf, base, rel, buf, off, hoff, hal, hb, hs, r, hr, buf2, hsz, hag => by
    cases vs with
    | nil => simp [HasTys] at hty
    | cons v vs =>
      simp only [HasTys, Bool.and_eq_true] at hty
      simp only [NilFreeL, Bool.and_eq_true] at hnf
      obtain ⟨hal1, hal2⟩ := cAlign_dvd_of_cons t ts base hal
      simp only [cEnd] at hb hag
      have hge := cEnd_ge ts (roundUp rel (cAlign t) + cSize t)
      have hrg := roundUp_ge rel (cAlign t) (cAlign_isAl t).pos
      rw [emitList_cons, List.append_assoc] at hr ⊢
      obtain ⟨d, code, hdc⟩ : ∃ d code, (emitParam t).1 ++ ((emitList ts).1 ++ rest) = d :: code := by
        cases t with
        | prim p => exact ⟨.prim p, _, rfl⟩
        | record fs => exact ⟨_, _, by rw [emitParam_record]; rfl⟩
      obtain ⟨r1, hr1, s1⟩ := valueField_spec t d code ((emitList ts).1 ++ rest) hdc v hty.1 base rel buf off
        hoff hal1 (by omega) hs
      obtain ⟨r2, hr2, s2⟩ := valueLoop_spec ts rest vs hty.2 base (roundUp rel (cAlign t) + cSize t)
        r1.buf r1.off (by rw [s1.off]; omega) hal2 (by rw [s1.size]; omega) (by rw [s1.size]; exact hs)
      rw [hdc] at hr ⊢
      simp only [FTys.length, valueLoop, hr1, s1.code, hr2, Option.some.injEq] at hr
      subst hr
      simp only at hag
      obtain ⟨n1, hn1, a1, a2, a3, a4⟩ := newField_spec t d code ((emitList ts).1 ++ rest) hdc v hty.1 hnf.1
        base rel buf off hoff hal1 (by omega) hs r1 hr1 buf2 hsz
        (fun i h1 h2 => by rw [hag i (by omega) (by omega), s2.frame i (by omega)])
      obtain ⟨n2, hn2, b1, b2, b3, b4⟩ := newLoop_spec ts rest vs hty.2 hnf.2 base
        (roundUp rel (cAlign t) + cSize t) r1.buf r1.off (by rw [s1.off]; omega) hal2
        (by rw [s1.size]; omega) (by rw [s1.size]; exact hs) r2 hr2 buf2 (by rw [hsz, s1.size])
        (fun i h1 h2 => hag i (by omega) (by omega))
      have hoff1 : n1.off = r1.off := by
        apply BitVec.eq_of_toNat_eq; rw [a3, s1.off]
      simp only [FTys.length, newLoop, hn1, a2, hoff1, hn2]
      refine ⟨_, rfl, ?_, b2, ?_, ?_⟩
      · simp only [a1, b1]
      · simp only [cEnd]; rw [b3]
      · simp only [cLeavesF, a4, b4]
end

end Never.Ffi
