/-
`collect` commutes with renaming: the function table of the renamed program is the renamed
function table (purely syntactic; structural induction over the AST).
-/
import NeverModel.Lemmas.SrcAlphaCore
namespace Never.Src

variable {ν : Ren}

theorem rnStack_cons (x : Name) (bs : List Name) : rnStack ν (x :: bs) = ν x bs.length :: rnStack ν bs := rfl

theorem rnStack_length (bs : List Name) : (rnStack ν bs).length = bs.length := by
  induction bs with
  | nil => rfl
  | cons x bs ih => simp [rnStack, ih]

theorem rnStack_rev_append (xs bs : List Name) :
    rnStack ν (xs.reverse ++ bs) = (rnNames ν bs.length xs).reverse ++ rnStack ν bs := by
  induction xs generalizing bs with
  | nil => rfl
  | cons x xs ih =>
    simp only [List.reverse_cons, List.append_assoc, List.singleton_append, rnNames]
    rw [ih (x :: bs), rnStack_cons]
    simp

theorem paramBinders_rn (d : Nat) (ps : List Param) : paramBinders (rnParams ν d ps) = rnNames ν d (paramBinders ps) := by
  induction ps generalizing d with
  | nil => rfl
  | cons p ps ih =>
    simp only [rnParams, paramBinders, rnNames, ih]
    congr 1
    -- rnNames over an append
    have happ : ∀ (d : Nat) (xs ys : List Name), rnNames ν d (xs ++ ys) = rnNames ν d xs ++ rnNames ν (d + xs.length) ys := by
      intro d xs
      induction xs generalizing d with
      | nil => intro ys; simp [rnNames]
      | cons x xs ihx => intro ys; simp [rnNames, ihx, Nat.add_assoc, Nat.add_comm 1]
    rw [happ]

theorem funcNames_rnFs (bs : List Name) (d : Nat) (fs : List Func) :
    funcNames (rnFs ν bs d fs) = rnNames ν d (funcNames fs) := by
  induction fs generalizing d with
  | nil => rfl
  | cons f fs ih => obtain ⟨id, n, ps, r, body, cs⟩ := f; simp [rnFs, funcNames, rnNames, rnF, Func.name, ih]

theorem qualBinders_rn (bs : List Name) (qs : List Qual) :
    qualBinders (rnQuals ν bs qs) ++ rnStack ν bs = rnStack ν (qualBinders qs ++ bs) := by
  induction qs generalizing bs with
  | nil => rfl
  | cons q qs ih =>
    cases q with
    | filter e => simp only [rnQuals, qualBinders, ih]
    | gen x coll =>
      simp only [rnQuals, qualBinders, List.append_assoc, List.singleton_append]
      rw [← rnStack_cons, ih]

mutual
theorem collectE_rn (hν : Adm ν) (bs : List Name) : ∀ e : Expr,
    collectE (rnStack ν bs) (rnE ν bs e) = (collectE bs e).map (rnEntry ν)
  | .lit _ | .var _ | .dimVar _ | .enumVal _ _ => rfl
  | .un _ a => by simp only [rnE, collectE, collectE_rn hν bs a]
  | .bin _ a b | .and a b | .or a b | .assign a b | .while a b | .doWhile a b => by
    simp only [rnE, collectE, collectE_rn hν bs a, collectE_rn hν bs b, List.map_append]
  | .cond c t e => by simp only [rnE, collectE, collectE_rn hν bs c, collectE_rn hν bs t, collectE_rn hν bs e, List.map_append]
  | .seq items => by simp only [rnE, collectE, collectItems_rn hν bs items]
  | .for i c s b => by
    simp only [rnE, collectE, collectE_rn hν bs i, collectE_rn hν bs c, collectE_rn hν bs s, collectE_rn hν bs b, List.map_append]
  | .forIn x coll b => by
    have := collectE_rn hν (x :: bs) b
    rw [rnStack_cons] at this
    simp only [rnE, collectE, collectE_rn hν bs coll, this, List.map_append]
  | .call f args => by simp only [rnE, collectE, collectE_rn hν bs f, collectEs_rn hν bs args, List.map_append]
  | .pipe l f args => by
    simp only [rnE, collectE, collectE_rn hν bs l, collectE_rn hν bs f, collectEs_rn hν bs args, List.map_append]
  | .builtin _ args | .arrLit _ args _ | .arrNew args _ | .record _ args | .tuple args | .enumRec _ _ args | .range args => by
    simp only [rnE, collectE, collectEs_rn hν bs args]
  | .index a idx | .slice a idx => by simp only [rnE, collectE, collectE_rn hν bs a, collectEs_rn hν bs idx, List.map_append]
  | .lam (.mk id n ps r body cs) => by
    by_cases hn : n = ""
    · have := collectF_rn hν bs "" (.mk id n ps r body cs)
      simp only [rnE, hn, if_true, collectE, rnF, Func.name] at this ⊢
      exact this
    · have hne : ν n bs.length ≠ "" := hν.nonempty _ _
      have := collectF_rn hν (n :: bs) (ν n bs.length) (.mk id n ps r body cs)
      rw [rnStack_cons] at this
      simp only [rnE, hn, if_false, collectE, rnF, Func.name, hne] at this ⊢
      exact this
  | .field e _ => by simp only [rnE, collectE, collectE_rn hν bs e]
  | .matchE e gs => by simp only [rnE, collectE, collectE_rn hν bs e, collectGuards_rn hν bs gs, List.map_append]
  | .ifLet g e els => by
    simp only [rnE, collectE, collectE_rn hν bs e, collectGuard_rn hν bs g, collectE_rn hν bs els, List.map_append]
  | .listcomp body quals _ => by
    have := collectE_rn hν (qualBinders quals ++ bs) body
    rw [← qualBinders_rn] at this
    simp only [rnE, collectE, collectQuals_rn hν bs quals, this, List.map_append]
theorem collectEs_rn (hν : Adm ν) (bs : List Name) : ∀ es : List Expr,
    collectEs (rnStack ν bs) (rnEs ν bs es) = (collectEs bs es).map (rnEntry ν)
  | [] => rfl
  | e :: es => by simp only [rnEs, collectEs, collectE_rn hν bs e, collectEs_rn hν bs es, List.map_append]
theorem collectItems_rn (hν : Adm ν) (bs : List Name) : ∀ items : List Item,
    collectItems (rnStack ν bs) (rnItems ν bs items) = (collectItems bs items).map (rnEntry ν)
  | [] => rfl
  | .expr e :: rest => by simp only [rnItems, collectItems, collectE_rn hν bs e, collectItems_rn hν bs rest, List.map_append]
  | .bind _ x e :: rest => by
    have := collectItems_rn hν (x :: bs) rest
    rw [rnStack_cons] at this
    simp only [rnItems, collectItems, collectE_rn hν bs e, this, List.map_append]
  | .funcs fs :: rest => by
    have h1 := collectFs_rn hν ((funcNames fs).reverse ++ bs) bs.length fs
    have h2 := collectItems_rn hν ((funcNames fs).reverse ++ bs) rest
    rw [rnStack_rev_append] at h1 h2
    simp only [rnItems, collectItems, funcNames_rnFs, h1, h2, List.map_append]
theorem collectFs_rn (hν : Adm ν) (bs : List Name) (d : Nat) : ∀ fs : List Func,
    collectFs (rnStack ν bs) (rnFs ν bs d fs) = (collectFs bs fs).map (rnEntry ν)
  | [] => rfl
  | .mk id n ps r body cs :: fs => by
    simp only [rnFs, collectFs, collectF_rn hν bs (ν n d) (.mk id n ps r body cs), collectFs_rn hν bs (d + 1) fs, List.map_append]
theorem collectF_rn (hν : Adm ν) (bs : List Name) (nn : Name) : ∀ fn : Func,
    collectF (rnStack ν bs) (rnF ν bs nn fn) = (collectF bs fn).map (rnEntry ν)
  | .mk id n ps r body cs => by
    have hb := collectE_rn hν ((paramBinders ps).reverse ++ bs) body
    have hc := collectCatches_rn hν ((paramBinders ps).reverse ++ bs) cs
    rw [rnStack_rev_append] at hb hc
    simp only [rnF, collectF, paramBinders_rn, rnStack_length, hb, hc, List.map_cons, List.map_append, rnEntry]
theorem collectCatches_rn (hν : Adm ν) (bs : List Name) : ∀ cs : List Catch,
    collectCatches (rnStack ν bs) (rnCatches ν bs cs) = (collectCatches bs cs).map (rnEntry ν)
  | [] => rfl
  | .mk _ b :: cs => by simp only [rnCatches, collectCatches, collectE_rn hν bs b, collectCatches_rn hν bs cs, List.map_append]
theorem collectGuard_rn (hν : Adm ν) (bs : List Name) : ∀ g : Guard,
    collectGuard (rnStack ν bs) (rnGuard ν bs g) = (collectGuard bs g).map (rnEntry ν)
  | .item _ _ b | .els b => by simp only [rnGuard, collectGuard, collectE_rn hν bs b]
  | .recd _ _ binds b => by
    have := collectE_rn hν (binds.reverse ++ bs) b
    rw [rnStack_rev_append] at this
    simp only [rnGuard, collectGuard, this]
theorem collectGuards_rn (hν : Adm ν) (bs : List Name) : ∀ gs : List Guard,
    collectGuards (rnStack ν bs) (rnGuards ν bs gs) = (collectGuards bs gs).map (rnEntry ν)
  | [] => rfl
  | g :: gs => by simp only [rnGuards, collectGuards, collectGuard_rn hν bs g, collectGuards_rn hν bs gs, List.map_append]
theorem collectQuals_rn (hν : Adm ν) (bs : List Name) : ∀ qs : List Qual,
    collectQuals (rnStack ν bs) (rnQuals ν bs qs) = (collectQuals bs qs).map (rnEntry ν)
  | [] => rfl
  | .filter e :: qs => by simp only [rnQuals, collectQuals, collectE_rn hν bs e, collectQuals_rn hν bs qs, List.map_append]
  | .gen x coll :: qs => by
    have := collectQuals_rn hν (x :: bs) qs
    rw [rnStack_cons] at this
    simp only [rnQuals, collectQuals, collectE_rn hν bs coll, this, List.map_append]
end

end Never.Src
