import NeverModel.Lemmas.VerRun
/-! every handler of M-VM, hence every `step`, keeps the heap's bookkeeping invariant `FreeInv` — for any module, verified or not -/
namespace Never.Vm
open Never Never.Num Never.Ver

/-- the collection a safe point triggers (`gc_run` under the configured schedule) keeps the bookkeeping invariant -/
theorem gcRunPure_freeInv {vm vm' : Vm} (h : gcRunPure vm = .ok vm') (hi : FreeInv vm.gc) : FreeInv vm'.gc := by
  unfold gcRunPure at h
  split at h
  · cases h; exact hi
  · dsimp only at h
    split at h
    · rename_i g hg
      cases h
      show FreeInv g
      split at hg
      · exact freeInv_collect hi hg
      · exact freeInv_run hi hg
    · cases h

instance : RegFrame KeepsFree where
  regs _ _ _ _ _ _ _ _ := id
  collect _ _ h := gcRunPure_freeInv h

/-- **every handler of M-VM keeps the heap's bookkeeping invariant** (all 222 opcodes, any module, any machine state) -/
theorem exec_keeps_freeInv (md : Module) (ins : Instr) (orc : Oracle) (vm vm' : Vm)
    (h : (exec md ins orc).run vm = .ok ((), vm')) (hi : FreeInv vm.gc) : FreeInv vm'.gc :=
  exec_rel (R := KeepsFree) md ins orc vm () vm' h hi

/-- **`FreeInv` is an invariant of execution**: one `step` of any module keeps the heap's bookkeeping intact -/
theorem step_keeps_freeInv (md : Module) (orc : Oracle) (vm vm' : Vm) (hi : FreeInv vm.gc)
    (hstep : (step md orc).run vm = .ok ((), vm')) : FreeInv vm'.gc :=
  step_rel (R := KeepsFree) md orc vm () vm' hstep hi

/-- … along every run (`RunsTo`: any number of steps, any oracles) -/
theorem runs_keep_freeInv (md : Module) : ∀ (n : Nat) (vm vm' : Vm), FreeInv vm.gc → RunsTo md (fun _ => True) n vm vm' → FreeInv vm'.gc := by
  intro n
  induction n with
  | zero => intro vm vm' hi hr; cases hr; exact hi
  | succ n ih =>
    intro vm vm' hi hr
    cases hr with
    | succ orc _ _ hstep hrest => exact ih _ _ (step_keeps_freeInv md orc _ _ hi hstep) hrest

end Never.Vm
