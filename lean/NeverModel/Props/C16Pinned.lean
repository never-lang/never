import NeverModel.Props.C16
/-!
# C16 — what the tree still gets wrong in its destructor table (counterexamples)

The pinned front/parser.y lacked three destructors (`param_decl`, `param_seq`, `except`).  The `fix:` commit
adb6ca8 added the one that mattered (`param_seq`, the only one of the three bison can discard); the other two
rows remain and are latent.  These theorems are kept apart from `Props/C16.lean`: when parser.y is repaired
further they stop being true (the check then reports "repaired", not a violation), while every theorem of
`Props/C16.lean` stays true.
-/
namespace Never.C16
open Never Never.ParserTab

/-- names of the rows that violate the full-strength statement -/
def failing (t : List Sym) : List String :=
  (t.filter fun s => s.ownsHeap && !s.handedOut && !releases s).map (·.name)

/-- the failing rows of the current table, exactly -/
theorem destructor_table_failing_rows : failing syms = ["param_decl", "except"] := by
  decide +kernel

/-- `destructor_table_complete` (every heap-owning symbol has a destructor) is still false: `param_decl` and
`except` have none — but neither can be on bison's stack when an error is detected (`failing_rows_discardable`) -/
theorem destructor_table_counterexample : ¬ Complete syms := by
  intro h
  have hnil : failing syms = [] := by
    unfold failing
    rw [List.filter_eq_nil_iff.mpr, List.map_nil]
    intro s hs
    cases ho : s.ownsHeap <;> cases hh : s.handedOut <;> simp
    exact h s hs ho hh
  rw [destructor_table_failing_rows] at hnil
  cases hnil

/-- none of the remaining rows can be discarded by bison: `param_decl` and `except` are latent
(never on the stack when an error is detected); `param_seq`, which could, was repaired -/
theorem failing_rows_discardable :
    (syms.filter fun s => s.ownsHeap && !s.handedOut && !releases s && s.discardable).map (·.name) = [] := by
  rw [List.filter_eq_nil_iff.mpr, List.map_nil]
  intro s hs
  cases ho : s.ownsHeap <;> cases hh : s.handedOut <;> cases hd : s.discardable <;> simp
  exact discardable_symbols_released s hs ho hh hd

/-! ## constructors (ownership table, `Gen/OwnTab.lean`) -/
open Never.Gen.OwnTab in
/-- full-strength statement "no constructor stores through a pointer member of the node it has just allocated unless it set
that member first" is false in the current tree: `object_new_string_arr` (back/object.c) writes `obj->string_arr_value->argc`
/ `->argv` with `string_arr_value` never set.  The function has no caller (latent).  One row, exactly. -/
theorem constructor_stores_through_unset_member : wildStores.length = 1 := by decide +kernel

end Never.C16
