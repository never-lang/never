import NeverModel.Lemmas.Frame
import NeverModel.Model.CompileState
/-!
# C15 — the embedding API is repeatable, isolated and deterministic (VM side)

Model: `NeverModel/Model/Vm.lean` (`markP`, `retP`, `beginExecute`), tied by lockstep traces
including repeated `nev_execute` calls on one VM (checks/c15.py).
The frame discipline theorem below is the core of "each call uses no more VM stack than the
first": a call frame built by MARK and popped by RET restores `fp`, `pp`, `gp` exactly and
leaves precisely ONE slot (the result).  The entry stub of every module is
`MARK; PUSH_PARAM; GLOBAL_VEC 0; ID_FUNC_ENTRY; CALL; HALT`; on the pinned tree every `nev_execute`
therefore returned with `sp = sp_before + 1` (`execute_leaves_result_slot_pinned`).  A `fix:` commit
pops the result slot at VM_HALT; `execute_restores_sp` is now proved at full strength.
-/
namespace Never.C15
open Never Never.Vm

/-- a frame built by MARK at stack height `sp0` and popped by RET — whatever happened in between,
as long as the five frame words are intact — restores fp, pp, gp, continues at the MARK's return
address and leaves the callee's result in slot `sp0 + 1` -/
theorem mark_ret_roundtrip (vm0 vm1 vm2 : Vm) (retAddr : Nat)
    (hs0 : StackOk vm0) (h0 : -1 ≤ vm0.sp) (h1 : vm0.sp + 5 < vm0.stackSize)
    (hm : markP vm0 retAddr = .ok vm1)
    (hs2 : StackOk vm2) (hsz : vm2.stackSize = vm0.stackSize) (hfp : vm2.fp = vm0.sp + 5)
    (hframe : ∀ k : Int, 1 ≤ k → k ≤ 5 → slot vm2 (vm0.sp + k) = slot vm1 (vm0.sp + k))
    (hsp0 : 0 ≤ vm2.sp) (hsp : vm2.sp < vm2.stackSize) :
    ∃ vm3, retP vm2 = .ok vm3 ∧ vm3.sp = vm0.sp + 1 ∧ vm3.fp = vm0.fp ∧ vm3.pp = vm0.pp ∧ vm3.gp = vm0.gp ∧
      vm3.ip = retAddr ∧ slot vm3 (vm0.sp + 1) = slot vm2 vm2.sp ∧ (∀ j, j ≤ vm0.sp → slot vm3 j = slot vm2 j) :=
  markP_retP vm0 vm1 vm2 retAddr hs0 h0 h1 hm hs2 hsz hfp hframe hsp0 hsp

/-- **each `nev_execute` uses no VM stack beyond the call**: the entry stub's frame (MARK at `sp_before` … RET)
nets one slot — the result — and the HALT epilogue pops it after copying the result out: `sp_after = sp_before`,
for every program (full strength since the `fix:` commit 2088ed3) -/
theorem execute_restores_sp (vm0 vm1 vm2 : Vm) (retAddr : Nat)
    (hs0 : StackOk vm0) (h0 : -1 ≤ vm0.sp) (h1 : vm0.sp + 5 < vm0.stackSize)
    (hm : markP vm0 retAddr = .ok vm1)
    (hs2 : StackOk vm2) (hsz : vm2.stackSize = vm0.stackSize) (hfp : vm2.fp = vm0.sp + 5)
    (hframe : ∀ k : Int, 1 ≤ k → k ≤ 5 → slot vm2 (vm0.sp + k) = slot vm1 (vm0.sp + k))
    (hsp0 : 0 ≤ vm2.sp) (hsp : vm2.sp < vm2.stackSize) :
    ∃ vm3, retP vm2 = .ok vm3 ∧ (haltEpilogue { vm3 with running := 0 }).sp = vm0.sp ∧
      (haltEpilogue { vm3 with running := 0 }).fp = vm0.fp ∧ (haltEpilogue { vm3 with running := 0 }).pp = vm0.pp := by
  obtain ⟨vm3, hr, hsp3, hfp3, hpp3, _⟩ := mark_ret_roundtrip vm0 vm1 vm2 retAddr hs0 h0 h1 hm hs2 hsz hfp hframe hsp0 hsp
  refine ⟨vm3, hr, ?_, ?_, ?_⟩
  · simp [haltEpilogue, hsp3]
  · simp [haltEpilogue, hfp3]
  · simp [haltEpilogue, hpp3]

/-- the defect that was repaired: without the pop every call left its result slot behind,
`sp_after = sp_before + 1` for every program (recorded as `fixed:`; checks/c15.py reports it again if it returns) -/
theorem execute_leaves_result_slot_pinned (vm0 vm1 vm2 : Vm) (retAddr : Nat)
    (hs0 : StackOk vm0) (h0 : -1 ≤ vm0.sp) (h1 : vm0.sp + 5 < vm0.stackSize)
    (hm : markP vm0 retAddr = .ok vm1)
    (hs2 : StackOk vm2) (hsz : vm2.stackSize = vm0.stackSize) (hfp : vm2.fp = vm0.sp + 5)
    (hframe : ∀ k : Int, 1 ≤ k → k ≤ 5 → slot vm2 (vm0.sp + k) = slot vm1 (vm0.sp + k))
    (hsp0 : 0 ≤ vm2.sp) (hsp : vm2.sp < vm2.stackSize) :
    ∃ vm3, retP vm2 = .ok vm3 ∧ vm3.sp ≠ vm0.sp ∧ vm3.sp = vm0.sp + 1 := by
  obtain ⟨vm3, hr, hsp3, _⟩ := mark_ret_roundtrip vm0 vm1 vm2 retAddr hs0 h0 h1 hm hs2 hsz hfp hframe hsp0 hsp
  exact ⟨vm3, hr, by omega, hsp3⟩

/-- **a call that fails uses no VM stack either**: on a machine that was already initialised, whatever the failing call left
behind, `nev_execute` returns with `sp_after = sp_before` and the frame registers as the run left them (since the `fix:` commit
dd988fe) -/
theorem failed_execute_restores_sp (sp0 : Int) (vm : Vm) (hfail : vm.running ≠ 0) :
    (failEpilogue true sp0 vm).sp = sp0 ∧ (failEpilogue true sp0 vm).fp = vm.fp ∧ (failEpilogue true sp0 vm).pp = vm.pp ∧
    (failEpilogue true sp0 vm).gc = vm.gc ∧ (failEpilogue true sp0 vm).running = vm.running := by
  have : (vm.running != 0) = true := by simpa using hfail
  simp [failEpilogue, this]

/-- a successful call is not touched by that epilogue -/
theorem fail_epilogue_only_on_failure (w : Bool) (sp0 : Int) (vm : Vm) (h : vm.running = 0) : failEpilogue w sp0 vm = vm := by
  simp [failEpilogue, h]

/-- the defect that was repaired: an exception that leaves the callee through RETHROW returns into the entry stub exactly like
RET — one slot above `sp_before` — and the stub's handler (UNHANDLED_EXCEPTION) stops the machine there: every failed call
left `sp_after = sp_before + 1` (found by an independent reviewer's driver; checks/c15.py now demands `sp_after = sp_before`
of every call after the first, failed or not) -/
theorem failed_execute_leaked_slot_pinned (vm0 vm1 vm2 : Vm) (retAddr : Nat)
    (hs0 : StackOk vm0) (h0 : -1 ≤ vm0.sp) (h1 : vm0.sp + 5 < vm0.stackSize)
    (hm : markP vm0 retAddr = .ok vm1)
    (hs2 : StackOk vm2) (hsz : vm2.stackSize = vm0.stackSize) (hfp : vm2.fp = vm0.sp + 5)
    (hframe : ∀ k : Int, 1 ≤ k → k ≤ 5 → slot vm2 (vm0.sp + k) = slot vm1 (vm0.sp + k))
    (hsp0 : 0 ≤ vm2.sp) (hsp : vm2.sp < vm2.stackSize) :
    ∃ vm3, retP vm2 = .ok vm3 ∧ (failEpilogue false vm0.sp { vm3 with running := 3 }).sp = vm0.sp + 1 := by
  obtain ⟨vm3, hr, hsp3, _⟩ := mark_ret_roundtrip vm0 vm1 vm2 retAddr hs0 h0 h1 hm hs2 hsz hfp hframe hsp0 hsp
  exact ⟨vm3, hr, by simp [failEpilogue, hsp3]⟩

/-- first `nev_execute` starts at 0 (global initialisation), every later one at the entry stub -/
theorem first_execute_initialises_once (md : Module) (vm : Vm) :
    (vm.initialized = false → (beginExecute md vm).ip = 0 ∧ (beginExecute md vm).initialized = true) ∧
    (vm.initialized = true → (beginExecute md vm).ip = md.codeEntry ∧ (beginExecute md vm).initialized = true) ∧
    (beginExecute md vm).sp = vm.sp ∧ (beginExecute md vm).stack = vm.stack ∧ (beginExecute md vm).gc = vm.gc := by
  unfold beginExecute
  cases h : vm.initialized <;> simp [h]

/-- non-vacuity: a concrete machine meeting the hypotheses of the round trip -/
example : ∃ vm1, markP (Vm.new 10 16) 7 = .ok vm1 ∧ StackOk (Vm.new 10 16) ∧ (Vm.new 10 16).sp + 5 < (Vm.new 10 16).stackSize :=
  (markP_spec (Vm.new 10 16) 7 (by simp [StackOk, Vm.new]) (by decide) (by decide)).imp fun _ h => ⟨h.1, by simp [StackOk, Vm.new], by decide⟩

/-! ### any history of calls -/

/-- one `nev_execute` on an initialised machine, as the VM model performs it: the entry stub's MARK at the height the
call found, any run that leaves the five frame words intact and ends in the stub's RET and HALT (`ok`), or any run that
stops the machine with an unhandled exception or an error (`fail`) -/
inductive Call : Vm → Vm → Prop
  | ok (vm0 vm1 vm2 vm3 : Vm) (retAddr : Nat)
      (hs0 : StackOk vm0) (h0 : -1 ≤ vm0.sp) (h1 : vm0.sp + 5 < vm0.stackSize)
      (hm : markP vm0 retAddr = .ok vm1)
      (hs2 : StackOk vm2) (hsz : vm2.stackSize = vm0.stackSize) (hfp : vm2.fp = vm0.sp + 5)
      (hframe : ∀ k : Int, 1 ≤ k → k ≤ 5 → slot vm2 (vm0.sp + k) = slot vm1 (vm0.sp + k))
      (hsp0 : 0 ≤ vm2.sp) (hsp : vm2.sp < vm2.stackSize) (hr : retP vm2 = .ok vm3) :
      Call vm0 (haltEpilogue { vm3 with running := 0 })
  | fail (vm0 vm : Vm) (hfail : vm.running ≠ 0) : Call vm0 (failEpilogue true vm0.sp vm)

/-- a finite sequence of calls on one machine, successful and failing in any mix -/
inductive History : Vm → Vm → Prop
  | nil (vm : Vm) : History vm vm
  | cons {a b c : Vm} : Call a b → History b c → History a c

theorem call_restores_sp {a b : Vm} (h : Call a b) : b.sp = a.sp := by
  cases h with
  | ok vm1 vm2 vm3 retAddr hs0 h0 h1 hm hs2 hsz hfp hframe hsp0 hsp hr =>
    obtain ⟨vm3', hr', hsp', _⟩ := execute_restores_sp a vm1 vm2 retAddr hs0 h0 h1 hm hs2 hsz hfp hframe hsp0 hsp
    rw [hr] at hr'; cases hr'; exact hsp'
  | fail vm hfail => exact (failed_execute_restores_sp a.sp vm hfail).1

/-- **the N-th call uses no more VM stack than the first**: after any finite history of calls — successful, failing, in
any order, of any entry points — the next call starts at the stack height the first one started at -/
theorem history_restores_sp {a c : Vm} (h : History a c) : c.sp = a.sp := by
  induction h with
  | nil => rfl
  | cons hc _ ih => rw [ih, call_restores_sp hc]

/-- and the preparation of the next call (`beginExecute`) keeps it there -/
theorem history_then_begin_restores_sp (md : Module) {a c : Vm} (h : History a c) : (beginExecute md c).sp = a.sp := by
  rw [(first_execute_initialises_once md c).2.2.1, history_restores_sp h]

/-- non-vacuity: a failing call followed by another failing call is a history on a concrete machine -/
example : History (Vm.new 10 16) (failEpilogue true (Vm.new 10 16).sp { Vm.new 10 16 with running := 3 }) :=
  .cons (.fail _ { Vm.new 10 16 with running := 3 } (by decide)) (.nil _)

/-- non-vacuity of `Call.ok`: on a fresh machine the entry stub's MARK followed at once by RET and HALT is a
successful call, and the one-call history built from it ends at the height it started at -/
example : ∃ b, Call (Vm.new 10 16) b ∧ History (Vm.new 10 16) b ∧ b.sp = (Vm.new 10 16).sp := by
  have hs0 : StackOk (Vm.new 10 16) := by simp [StackOk, Vm.new]
  have h0 : -1 ≤ (Vm.new 10 16).sp := by decide
  have h1 : (Vm.new 10 16).sp + 5 < (Vm.new 10 16).stackSize := by decide
  obtain ⟨vm1, hm, mp⟩ := markP_spec (Vm.new 10 16) 7 hs0 h0 h1
  have hsp0 : 0 ≤ vm1.sp := by rw [mp.sp]; omega
  have hsp : vm1.sp < vm1.stackSize := by rw [mp.sp, mp.size]; exact h1
  obtain ⟨vm3, hr, _⟩ := mark_ret_roundtrip (Vm.new 10 16) vm1 vm1 7 hs0 h0 h1 hm mp.ok mp.size mp.fp
    (fun _ _ _ => rfl) hsp0 hsp
  have hc := Call.ok (Vm.new 10 16) vm1 vm1 vm3 7 hs0 h0 h1 hm mp.ok mp.size mp.fp (fun _ _ _ => rfl) hsp0 hsp hr
  exact ⟨_, hc, .cons hc (.nil _), call_restores_sp hc⟩

/-! ### compile side: no state survives from one compilation into the next -/

/-- the translator recognised every shape it met -/
theorem globals_translated : Never.Gen.Globals.problems = [] := by decide +kernel

/-- **Every variable with static storage duration in front/ and back/ (as regenerated from the current tree, generated
parser and scanner included) is const, or is listed in `CompileState.table` with a discipline whose side condition holds
against the regenerated writers and call graph**: never written / assigned by a resetting function that is on the compile
path / lexer scratch re-established by a reachable function / only meaningful below a reset index / not on the compile
path at all.  Hence a compilation starts from the same static state whatever was compiled before (`compile_is_history_free`
in DESIGN.md §3 C15 is this table + the differential run; the semantic step "reset before use" is by inspection of the
listed functions and is part of the trusted base). -/
theorem compile_state_accounted : Never.Gen.Globals.vars.all Never.CompileState.accounted = true := by decide +kernel

/-- not vacuous: the tree has mutable static state, and the table distinguishes it -/
example : (Never.Gen.Globals.vars.filter fun v => !v.isConst).length ≥ 30 := by decide +kernel
example : Never.CompileState.accounted { file := "front/typecheck.c", name := "expr_check.cache", ctype := "int", isConst := false, owner := "expr_check", writers := ["expr_check"] } = false := by decide +kernel

end Never.C15
