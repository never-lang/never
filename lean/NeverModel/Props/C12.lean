import NeverModel.Lemmas.Index
/-!
# Never.Idx — machine-checked properties of the VM index arithmetic (claim C12)

Core library only.  No sorry / admit / axiom / native_decide / bv_decide / unsafe.
`_partial` theorems carry the explicit hypothesis under which the C code is right,
`_counterexample` theorems exhibit a concrete input where the unrestricted statement fails.
-/
namespace Never.Idx

/-! ## 1. rowmajor_exact -/

theorem rowmajor_exact (exts idx : List Nat) (hp : prod exts < U32)
    (hl : idx.length = exts.length)
    (hin : ∀ k (h1 : k < idx.length) (h2 : k < exts.length), idx[k] < exts[k]) :
    dimAddr (dimMult exts).1 idx = .ok (rowMajor exts idx) ∧
    rowMajor exts idx < (dimMult exts).2 ∧ (dimMult exts).2 = prod exts := by
  have hr : InRangeR exts idx := (inRangeR_iff exts idx).2 ⟨hl, hin⟩
  have hlt := rowMajor_lt exts idx hr
  rw [dimMult_of_lt exts hp]
  refine ⟨?_, hlt, rfl⟩
  have := dimAddrAux_multPass_ok exts idx 0 0 hr (by omega)
  simpa [dimAddr] using this

example : dimAddr (dimMult [2, 3, 4]).1 [1, 2, 3] = .ok 23 ∧ rowMajor [2, 3, 4] [1, 2, 3] = 23 := by decide

/-! ## 2. rowmajor_oob (no hypothesis on the product is needed) -/

theorem rowmajor_oob (exts idx : List Nat) (k0 : Nat)
    (h1 : k0 < exts.length) (h2 : k0 < idx.length)
    (hoob : exts[k0] ≤ idx[k0])
    (hfirst : ∀ k (hk : k < k0), idx[k] < exts[k]) :
    dimAddr (dimMult exts).1 idx = .error k0 := by
  have := dimAddrAux_multPass_error exts (prodWrap exts 1) idx 0 0 k0 h1 h2 hoob hfirst
  simpa [dimAddr, dimMult] using this

example : dimAddr (dimMult [2, 3, 4]).1 [1, 3, 4] = .error 1 := by decide
example : dimAddr (dimMult [2, 0, 4]).1 [1, 0, 0] = .error 1 := by decide

/-! ## 3. rowmajor_injective -/

theorem rowmajor_injective (exts i1 i2 : List Nat) (hp : prod exts < U32)
    (hl1 : i1.length = exts.length)
    (hin1 : ∀ k (h1 : k < i1.length) (h2 : k < exts.length), i1[k] < exts[k])
    (hl2 : i2.length = exts.length)
    (hin2 : ∀ k (h1 : k < i2.length) (h2 : k < exts.length), i2[k] < exts[k])
    (heq : dimAddr (dimMult exts).1 i1 = dimAddr (dimMult exts).1 i2) : i1 = i2 := by
  rw [(rowmajor_exact exts i1 hp hl1 hin1).1, (rowmajor_exact exts i2 hp hl2 hin2).1] at heq
  exact rowMajor_inj exts i1 i2 ((inRangeR_iff exts i1).2 ⟨hl1, hin1⟩)
    ((inRangeR_iff exts i2).2 ⟨hl2, hin2⟩) (by injection heq)

example : dimAddr (dimMult [2, 3]).1 [1, 0] ≠ dimAddr (dimMult [2, 3]).1 [0, 2] := by decide

/-! ## 4. rowmajor_overflow_counterexample -/

theorem rowmajor_overflow_counterexample :
    (dimMult [65536, 65536]).2 = 0 ∧ (∀ x ∈ [65536, 65536], x ≠ 0) ∧
    ¬ prod [65536, 65536] < U32 ∧
    dimAddr (dimMult [65536, 65536]).1 [1, 1] = .ok 0 ∧
    dimAddr (dimMult [65536, 65536]).1 [0, 0] = dimAddr (dimMult [65536, 65536]).1 [1, 1] ∧
    ¬ (0 < (dimMult [65536, 65536]).2) := by decide

/-! ## 5. deref_negative_rejected -/

theorem deref_negative_rejected (dv : List (Nat × Nat)) (idx : List Int) :
    (∀ d (h : d < idx.length), idx[d] < 0 → (∀ k (hk : k < d), 0 ≤ idx[k]) →
        derefIndices dv idx = .error d) ∧
    ((∀ k (hk : k < idx.length), 0 ≤ idx[k]) →
        derefIndices dv idx = dimAddr dv (idx.map Int.toNat)) := by
  constructor
  · intro d h hneg hfirst
    have := firstNeg_some idx 0 d h hneg hfirst
    simp [derefIndices, this]
  · intro h
    simp [derefIndices, firstNeg_none idx 0 h]

example : derefIndices (dimMult [2, 3]).1 [5, -1] = .error 1 := by decide
example : derefIndices (dimMult [2, 3]).1 [1, 2] = .ok 5 := by decide


theorem sliceRange_neg (a b c d : Int) (h : c < 0 ∨ d < 0) : sliceRange a b c d = none := by
  simp [sliceRange, h]

theorem rangeLen_cast (a b : Int) : (rangeLen a b : Int) = if a < b then b - a + 1 else a - b + 1 := by
  simp only [rangeLen]
  split <;> omega

theorem lt_rangeLen (c d k : Int) : k < (rangeLen c d : Int) ↔ k ≤ ((c - d).natAbs : Int) := by
  simp only [rangeLen]
  omega

/-- `vm_get_slice_range` tests only the larger inner bound against the far end of the outer range; with both
    inner bounds non-negative that is the same as both being positions of the outer range -/
theorem sliceRange_eq_some (a b c d r1 r2 : Int) : sliceRange a b c d = some (r1, r2) ↔
    (0 ≤ c ∧ 0 ≤ d ∧ c < (rangeLen a b : Int) ∧ d < (rangeLen a b : Int) ∧
      r1 = rangePos a b c ∧ r2 = rangePos a b d) := by
  by_cases hn : c < 0 ∨ d < 0
  · simp only [sliceRange, if_pos hn, reduceCtorEq, false_iff]
    omega
  · by_cases hab : a < b <;> by_cases hcd : c < d <;>
      simp only [sliceRange, sliceRangePinned, rangeLen_cast, rangePos, hn, hab, hcd, if_true, if_false] <;>
      split <;> simp only [Option.some.injEq, Prod.mk.injEq, reduceCtorEq, false_iff] <;> omega

/-- positions `c`, `d` of `[a..b]` span a range as long as `[c..d]` whose `k`-th position is position
    `rangePos c d k` of `[a..b]`, in all four direction combinations -/
theorem rangePos_comp (a b c d : Int) (hc : 0 ≤ c) (hd : 0 ≤ d)
    (hcl : c < (rangeLen a b : Int)) (hdl : d < (rangeLen a b : Int)) :
    rangeLen (rangePos a b c) (rangePos a b d) = rangeLen c d ∧
    ∀ k : Int, 0 ≤ k → k ≤ ((c - d).natAbs : Int) →
      0 ≤ rangePos c d k ∧ rangePos c d k < (rangeLen a b : Int) ∧
      rangePos (rangePos a b c) (rangePos a b d) k = rangePos a b (rangePos c d k) := by
  by_cases hab : a < b <;> by_cases hcd : c < d <;>
    simp only [rangeLen_cast, rangePos, hab, hcd, if_true, if_false] at hcl hdl ⊢ <;>
    simp only [rangeLen] <;>
    refine ⟨by omega, fun k hk0 hk => ⟨by omega, by omega, ?_⟩⟩ <;> split <;> omega

example : sliceRange 2 9 1 4 = some (3, 6) ∧ sliceRange 9 2 4 1 = some (5, 8) ∧
    sliceRange 4 4 0 0 = some (4, 4) ∧ sliceRange 2 9 3 3 = some (5, 5) ∧
    sliceRange 2 9 8 0 = none ∧ sliceRange 4 4 0 1 = none := by decide

/-! ## 6b. range_denotation, full strength (since the `fix:` commit 3ebfaa3 added the lower-bound test) -/

/-- a range `[a..b]` composed with `[c..d]` is accepted iff both `c` and `d` are positions of the outer range, and
then denotes exactly the sub-sequence of positions `c…d` — for all integers, all four direction combinations -/
theorem range_denotation (a b c d : Int) :
    (∀ r1 r2 : Int, sliceRange a b c d = some (r1, r2) ↔
        (0 ≤ c ∧ 0 ≤ d ∧ c < (rangeLen a b : Int) ∧ d < (rangeLen a b : Int) ∧
         r1 = rangePos a b c ∧ r2 = rangePos a b d)) ∧
    (∀ r1 r2 : Int, sliceRange a b c d = some (r1, r2) →
        rangeLen r1 r2 = rangeLen c d ∧
        ∀ k : Int, 0 ≤ k → k ≤ ((c - d).natAbs : Int) →
          0 ≤ rangePos c d k ∧ rangePos c d k < (rangeLen a b : Int) ∧
          rangePos r1 r2 k = rangePos a b (rangePos c d k)) := by
  refine ⟨sliceRange_eq_some a b c d, fun r1 r2 h => ?_⟩
  obtain ⟨hc, hd, hcl, hdl, rfl, rfl⟩ := (sliceRange_eq_some a b c d r1 r2).1 h
  exact rangePos_comp a b c d hc hd hcl hdl

/-- the same under the hypothesis that the inner bounds are not negative (the statement before the `fix:` commit 3ebfaa3 made the
lower-bound test part of the function) -/
theorem range_denotation_partial (a b c d : Int) (hc : 0 ≤ c) (hd : 0 ≤ d) :
    (∀ r1 r2 : Int, sliceRange a b c d = some (r1, r2) ↔
        (c < (rangeLen a b : Int) ∧ d < (rangeLen a b : Int) ∧
         r1 = rangePos a b c ∧ r2 = rangePos a b d)) ∧
    (∀ r1 r2 : Int, sliceRange a b c d = some (r1, r2) →
        rangeLen r1 r2 = rangeLen c d ∧
        ∀ k : Int, 0 ≤ k → k ≤ ((c - d).natAbs : Int) →
          0 ≤ rangePos c d k ∧ rangePos c d k < (rangeLen a b : Int) ∧
          rangePos r1 r2 k = rangePos a b (rangePos c d k)) :=
  ⟨fun r1 r2 => ((range_denotation a b c d).1 r1 r2).trans ⟨fun h => h.2.2, fun h => ⟨hc, hd, h⟩⟩, (range_denotation a b c d).2⟩

example : sliceRange 2 5 (-1) 1 = none ∧ sliceRange 2 5 1 (-1) = none ∧ sliceRange 5 2 (-1) 1 = none ∧
    sliceRange 2 5 1 3 = some (3, 5) := by decide

/-! ## 7. the defect that was repaired (`fix:` commit 3ebfaa3): the pinned function accepted negative inner bounds -/

theorem range_denotation_pinned_counterexample :
    -- accepted although position c = -1 does not exist in [2..5]; the result starts at 1 < 2
    sliceRangePinned 2 5 (-1) 1 = some (1, 3) ∧ ¬ (0 ≤ (-1 : Int)) ∧ ¬ (2 ≤ (1 : Int)) ∧
    -- same with the unchecked end on the other side (c ≥ d sub-branch checks only res_from)
    sliceRangePinned 2 5 1 (-1) = some (3, 1) ∧
    -- descending outer range [5..2]: result starts at 6 > 5
    sliceRangePinned 5 2 (-1) 1 = some (6, 4) ∧
    -- the unrestricted iff of `range_denotation_partial` fails here
    ¬ (sliceRangePinned 2 5 (-1) 1 = some (1, 3) ↔
        ((0 ≤ (-1 : Int) ∧ (-1 : Int) < (rangeLen 2 5 : Int)) ∧ (1 : Int) < (rangeLen 2 5 : Int))) := by
  decide

/-! ## 8. slice_of_slice -/

theorem slice_of_slice (a b c d e f : Int) (hc : 0 ≤ c) (hd : 0 ≤ d) (he : 0 ≤ e) (hf : 0 ≤ f) :
    (∀ s1 s2 : Int,
        (∃ r1 r2 : Int, sliceRange a b c d = some (r1, r2) ∧ sliceRange r1 r2 e f = some (s1, s2)) ↔
        (c < (rangeLen a b : Int) ∧ d < (rangeLen a b : Int) ∧
         e < (rangeLen c d : Int) ∧ f < (rangeLen c d : Int) ∧
         s1 = rangePos a b (rangePos c d e) ∧ s2 = rangePos a b (rangePos c d f))) ∧
    (∀ r1 r2 s1 s2 : Int, sliceRange a b c d = some (r1, r2) → sliceRange r1 r2 e f = some (s1, s2) →
        rangeLen s1 s2 = rangeLen e f ∧
        ∀ k : Int, 0 ≤ k → k ≤ ((e - f).natAbs : Int) →
          rangePos s1 s2 k = rangePos a b (rangePos c d (rangePos e f k))) := by
  constructor
  · intro s1 s2
    constructor
    · rintro ⟨r1, r2, h1, h2⟩
      obtain ⟨-, -, hcl, hdl, rfl, rfl⟩ := (sliceRange_eq_some a b c d r1 r2).1 h1
      obtain ⟨-, -, hel, hfl, rfl, rfl⟩ := (sliceRange_eq_some _ _ e f s1 s2).1 h2
      obtain ⟨hlen, hk⟩ := rangePos_comp a b c d hc hd hcl hdl
      rw [hlen] at hel hfl
      exact ⟨hcl, hdl, hel, hfl, (hk e he ((lt_rangeLen c d e).1 hel)).2.2, (hk f hf ((lt_rangeLen c d f).1 hfl)).2.2⟩
    · rintro ⟨hcl, hdl, hel, hfl, rfl, rfl⟩
      obtain ⟨hlen, hk⟩ := rangePos_comp a b c d hc hd hcl hdl
      refine ⟨_, _, (sliceRange_eq_some a b c d _ _).2 ⟨hc, hd, hcl, hdl, rfl, rfl⟩,
        (sliceRange_eq_some _ _ e f _ _).2 ⟨he, hf, hlen ▸ hel, hlen ▸ hfl, ?_, ?_⟩⟩
      · exact ((hk e he ((lt_rangeLen c d e).1 hel)).2.2).symm
      · exact ((hk f hf ((lt_rangeLen c d f).1 hfl)).2.2).symm
  · intro r1 r2 s1 s2 h1 h2
    obtain ⟨-, -, hcl, hdl, rfl, rfl⟩ := (sliceRange_eq_some a b c d r1 r2).1 h1
    obtain ⟨-, -, hel, hfl, rfl, rfl⟩ := (sliceRange_eq_some _ _ e f s1 s2).1 h2
    obtain ⟨hlen, hk⟩ := rangePos_comp a b c d hc hd hcl hdl
    obtain ⟨hlen', hk'⟩ := rangePos_comp _ _ e f he hf hel hfl
    refine ⟨hlen', fun k hk0 hkl => ?_⟩
    obtain ⟨h0, hl, heq⟩ := hk' k hk0 hkl
    rw [heq, (hk _ h0 ((lt_rangeLen c d _).1 (hlen ▸ hl))).2.2]

example : sliceRange 10 2 1 7 = some (9, 3) ∧ sliceRange 9 3 5 2 = some (4, 7) ∧
    rangePos 10 2 (rangePos 1 7 (rangePos 5 2 1)) = 5 ∧ rangePos 4 7 1 = 5 := by decide


/-! ## 9. slice_deref_exact_partial -/

theorem sliceRange_single (fr t i : Int) (hi : 0 ≤ i) :
    (i < (rangeLen fr t : Int) → sliceRange fr t i i = some (rangePos fr t i, rangePos fr t i)) ∧
    ((rangeLen fr t : Int) ≤ i → sliceRange fr t i i = none) := by
  refine ⟨fun h => (sliceRange_eq_some fr t i i _ _).2 ⟨hi, hi, h, h, rfl, rfl⟩, fun h => ?_⟩
  cases hs : sliceRange fr t i i with
  | none => rfl
  | some p =>
    have := (sliceRange_eq_some fr t i i p.1 p.2).1 hs
    omega

theorem sliceAddrs_ok (ranges : List (Int × Int)) : ∀ (idx : List Int) (m : Nat),
    idx.length = ranges.length →
    (∀ k (h1 : k < ranges.length) (h2 : k < idx.length),
      0 ≤ idx[k] ∧ idx[k] < (rangeLen ranges[k].1 ranges[k].2 : Int)) →
    sliceAddrs ranges idx m = .ok ((composed ranges idx).map toU32) := by
  induction ranges with
  | nil => intro idx m hl _; cases idx <;> simp_all [sliceAddrs, composed]
  | cons r rs ih =>
    intro idx m hl h
    obtain ⟨fr, t⟩ := r
    cases idx with
    | nil => simp at hl
    | cons i is =>
      have h0 := h 0 (Nat.zero_lt_succ _) (Nat.zero_lt_succ _)
      have hs := (sliceRange_single fr t i h0.1).1 h0.2
      have hrec := ih is (m+1) (Nat.succ.inj hl) (fun k h1 h2 => h (k+1) (Nat.succ_lt_succ h1) (Nat.succ_lt_succ h2))
      simp only [sliceAddrs, hs, hrec, composed, List.zipWith_cons_cons, List.map_cons]

theorem sliceAddrs_error (ranges : List (Int × Int)) : ∀ (idx : List Int) (m k0 : Nat)
    (h1 : k0 < ranges.length) (h2 : k0 < idx.length),
    0 ≤ idx[k0] → (rangeLen ranges[k0].1 ranges[k0].2 : Int) ≤ idx[k0] →
    (∀ k (hk : k < k0), 0 ≤ idx[k] ∧ idx[k] < (rangeLen ranges[k].1 ranges[k].2 : Int)) →
    sliceAddrs ranges idx m = .error (m + k0) := by
  induction ranges with
  | nil => intro idx m k0 h1; simp at h1
  | cons r rs ih =>
    intro idx m k0 h1 h2 hnn hge hfirst
    obtain ⟨fr, t⟩ := r
    cases idx with
    | nil => simp at h2
    | cons i is =>
      cases k0 with
      | zero =>
        simp only [List.getElem_cons_zero] at hnn hge
        simp [sliceAddrs, (sliceRange_single fr t i hnn).2 hge]
      | succ k =>
        have h0 := hfirst 0 (Nat.zero_lt_succ _)
        have hs := (sliceRange_single fr t i h0.1).1 h0.2
        have hrec := ih is (m+1) k (Nat.lt_of_succ_lt_succ h1) (Nat.lt_of_succ_lt_succ h2) hnn hge
          (fun j hj => hfirst (j+1) (Nat.succ_lt_succ hj))
        simp only [sliceAddrs, hs, hrec]
        congr 1; omega

theorem slice_deref_exact_partial (exts : List Nat) (ranges : List (Int × Int)) (idx : List Int)
    (hlr : ranges.length = exts.length) (hli : idx.length = exts.length)
    (hi : ∀ k (h : k < idx.length), 0 ≤ idx[k]) :
    -- (a) every index inside its range, ranges inside the array, no wrap of the element count:
    --     the element reached is the row-major element of the composed index (aliasing)
    (prod exts < U32 →
     (∀ k (h1 : k < ranges.length) (h2 : k < exts.length),
        0 ≤ ranges[k].1 ∧ ranges[k].1 < (exts[k] : Int) ∧
        0 ≤ ranges[k].2 ∧ ranges[k].2 < (exts[k] : Int)) →
     (∀ k (h1 : k < ranges.length) (h2 : k < idx.length),
        idx[k] < (rangeLen ranges[k].1 ranges[k].2 : Int)) →
     sliceDerefIndices (dimMult exts).1 ranges idx
        = .ok (rowMajor exts ((composed ranges idx).map Int.toNat)) ∧
     sliceDerefIndices (dimMult exts).1 ranges idx
        = derefIndices (dimMult exts).1 (composed ranges idx) ∧
     rowMajor exts ((composed ranges idx).map Int.toNat) < (dimMult exts).2) ∧
    -- (b) the first index at or beyond its range length is reported (no hypothesis on ranges/extents)
    (∀ k0 (h1 : k0 < ranges.length) (h2 : k0 < idx.length),
        (rangeLen ranges[k0].1 ranges[k0].2 : Int) ≤ idx[k0] →
        (∀ k (hk : k < k0), idx[k] < (rangeLen ranges[k].1 ranges[k].2 : Int)) →
        sliceDerefIndices (dimMult exts).1 ranges idx = .error k0) := by
  have hneg : firstNeg idx 0 = none := firstNeg_none idx 0 hi
  constructor
  · intro hp hr hlen
    have hsa := sliceAddrs_ok ranges idx 0 (by omega) (fun k h1 h2 => ⟨hi k h2, hlen k h1 h2⟩)
    have hclen : (composed ranges idx).length = exts.length := by
      simp [composed, List.length_zipWith]; omega
    -- per-position facts about the composed index
    have hcomp : ∀ k (h : k < (composed ranges idx).length) (h2 : k < exts.length),
        0 ≤ (composed ranges idx)[k] ∧ (composed ranges idx)[k] < (exts[k] : Int) := by
      intro k h h2
      have hk1 : k < ranges.length := by omega
      have hk2 : k < idx.length := by omega
      have e : (composed ranges idx)[k] = rangePos ranges[k].1 ranges[k].2 idx[k] := by
        simp [composed, List.getElem_zipWith]
      have a := hr k hk1 h2
      have b := hlen k hk1 hk2
      have c := hi k hk2
      rw [e]; simp only [rangePos, rangeLen] at *
      split <;> omega
    have hpos : ∀ x ∈ exts, 0 < x := by
      intro x hx
      obtain ⟨k, hk, rfl⟩ := List.getElem_of_mem hx
      have := hcomp k (by omega) hk
      omega
    have hmap : (composed ranges idx).map toU32 = (composed ranges idx).map Int.toNat := by
      apply List.map_congr_left
      intro x hx
      obtain ⟨k, hk, rfl⟩ := List.getElem_of_mem hx
      have := hcomp k hk (by omega)
      have hle := le_prod_of_pos exts hpos k (by omega)
      exact toU32_eq_toNat _ this.1 (by omega)
    have hin : ∀ k (h1 : k < ((composed ranges idx).map Int.toNat).length) (h2 : k < exts.length),
        ((composed ranges idx).map Int.toNat)[k] < exts[k] := by
      intro k h1 h2
      have := hcomp k (by simpa using h1) h2
      simp only [List.getElem_map]; omega
    have hex := rowmajor_exact exts ((composed ranges idx).map Int.toNat) hp (by simpa using hclen) hin
    have hd := (deref_negative_rejected (dimMult exts).1 (composed ranges idx)).2
      (fun k hk => (hcomp k hk (by omega)).1)
    refine ⟨?_, ?_, hex.2.1⟩
    · simp only [sliceDerefIndices, hneg, hsa, hmap]; exact hex.1
    · simp only [sliceDerefIndices, hneg, hsa, hmap]; exact hd.symm
  · intro k0 h1 h2 hge hfirst
    have := sliceAddrs_error ranges idx 0 k0 h1 h2 (hi k0 h2) hge
      (fun k hk => ⟨hi k (by omega), hfirst k hk⟩)
    simp [sliceDerefIndices, hneg, this]

example : sliceDerefIndices (dimMult [5, 6]).1 [(3, 1), (2, 4)] [1, 2] = .ok 16 ∧
    rowMajor [5, 6] ((composed [(3, 1), (2, 4)] [1, 2]).map Int.toNat) = 16 ∧
    composed [(3, 1), (2, 4)] [1, 2] = [2, 4] ∧
    sliceDerefIndices (dimMult [5, 6]).1 [(3, 1), (2, 4)] [1, 3] = .error 1 := by decide

/-- Why the "ranges inside the array" hypothesis is needed: `vm_execute_slice_array` stores the
    range unchecked, and a negative composed position is converted to `unsigned`; with a large
    enough extent it lands on a real element.  Also: a range reaching beyond the array is accepted
    at creation and only `object_arr_dim_addr` stops it at dereference. -/
theorem slice_deref_counterexample :
    sliceDerefIndices (dimMult [3000000000]).1 [(-2147483648, -2147483647)] [0] = .ok 2147483648 ∧
    composed [(-2147483648, -2147483647)] [0] = [-2147483648] ∧
    derefIndices (dimMult [3000000000]).1 [-2147483648] = .error 0 ∧
    sliceDerefIndices (dimMult [10]).1 [(0, 20)] [15] = .error 0 ∧
    (15 : Int) < (rangeLen 0 20 : Int) := by decide


/-! ## 10. string_index -/

/-- string indexing reads only offsets `0 ≤ i < strlen` (full strength since fix f8907f0) -/
theorem string_index (len : Nat) (i : Int) :
    stringDerefOk len i = true ↔ (0 ≤ i ∧ i < (len : Int)) := by
  simp [stringDerefOk]

/-- the defect that was repaired: the pinned guard accepted every negative index
(recorded as `fixed:` in known_findings.json; the check reports it again if it ever returns) -/
theorem string_deref_pinned_counterexample :
    stringDerefOkPinned 3 (-1) = true ∧ stringDerefOk 3 (-1) = false ∧
    (∀ len : Nat, ∀ i : Int, i < 0 → stringDerefOkPinned len i = true) := by
  refine ⟨by decide, by decide, ?_⟩
  intro len i hi
  simp [stringDerefOkPinned]; omega

example : stringDerefOk 3 2 = true ∧ stringDerefOk 3 3 = false ∧ stringDerefOk 3 (-1) = false := by decide

theorem slice_string (s : List UInt8) (fr t : Int) :
    ((sliceString s fr t).isSome ↔
        (0 ≤ fr ∧ fr < (s.length : Int) ∧ 0 ≤ t ∧ t < (s.length : Int))) ∧
    (∀ r, sliceString s fr t = some r →
        r.length = rangeLen fr t ∧
        ∀ k : Nat, k < rangeLen fr t →
          0 ≤ rangePos fr t k ∧ rangePos fr t k < (s.length : Int) ∧
          r[k]? = s[(rangePos fr t k).toNat]?) := by
  constructor
  · simp only [sliceString]
    split
    · rename_i h; simp at h ⊢; omega
    · rename_i h; simp at h
      split <;> simp <;> omega
  · intro r
    simp only [sliceString]
    split
    · simp
    · rename_i h; simp at h
      split
      · rename_i hlt
        intro hr; injection hr with hr; subst hr
        have hlen : ((s.drop fr.toNat).take (t - fr + 1).toNat).length = rangeLen fr t := by
          simp only [List.length_take, List.length_drop, rangeLen]; omega
        refine ⟨hlen, ?_⟩
        intro k hk
        simp only [rangeLen] at hk
        simp only [rangePos, hlt, if_true]
        refine ⟨by omega, by omega, ?_⟩
        rw [List.getElem?_take, if_pos (by omega), List.getElem?_drop]
        congr 1; omega
      · rename_i hge
        intro hr; injection hr with hr; subst hr
        have hlen : ((s.drop t.toNat).take (fr - t + 1).toNat).length = rangeLen fr t := by
          simp only [List.length_take, List.length_drop, rangeLen]; omega
        refine ⟨by simpa using hlen, ?_⟩
        intro k hk
        simp only [rangePos, hge, if_false]
        simp only [rangeLen] at hk hlen
        refine ⟨by omega, by omega, ?_⟩
        rw [List.getElem?_reverse (by omega), List.getElem?_take, if_pos (by omega), List.getElem?_drop]
        congr 1; omega

example : sliceString [10, 11, 12, 13, 14] 3 1 = some [13, 12, 11] ∧
    sliceString [10, 11, 12, 13, 14] 1 3 = some [11, 12, 13] ∧
    sliceString [10, 11, 12, 13, 14] 2 2 = some [12] ∧
    sliceString [10, 11, 12, 13, 14] 1 5 = none ∧
    sliceString [10, 11, 12, 13, 14] (-1) 2 = none := by decide

/-! ## 11. shape_conformance -/

theorem shape_conformance (dv1 dv2 : List (Nat × Nat)) :
    (canAdd dv1 dv2 = true ↔
        (dv1.length = dv2.length ∧
         ∀ k (h1 : k < dv1.length) (h2 : k < dv2.length), dv1[k].1 = dv2[k].1)) ∧
    (canMult dv1 dv2 = true ↔
        ∃ rows1 m1 cols1 m2 rows2 m3 cols2 m4,
          dv1 = [(rows1, m1), (cols1, m2)] ∧ dv2 = [(rows2, m3), (cols2, m4)] ∧ cols1 = rows2) := by
  constructor
  · by_cases hl : dv1.length = dv2.length
    · simp only [canAdd, hl, ne_eq, not_true_eq_false, if_false, true_and, extsEq_iff dv1 dv2 hl]
      constructor
      · intro h k h1 h2
        have : (dv1.map Prod.fst)[k]'(by simp; omega) = (dv2.map Prod.fst)[k]'(by simp; omega) := by
          simp only [h]
        simpa using this
      · intro h
        apply List.ext_getElem (by simpa using hl)
        intro k h1 h2
        simpa using h k (by simp at h1; omega) (by simp at h2; omega)
    · simp [canAdd, hl]
  · constructor
    · intro h
      simp only [canMult] at h
      split at h
      · simp at h
      · rename_i hlen
        simp at hlen
        match dv1, dv2, hlen with
        | [(r1, m1), (c1, m2)], [(r2, m3), (c2, m4)], _ =>
          simp at h
          exact ⟨r1, m1, c1, m2, r2, m3, c2, m4, rfl, rfl, h⟩
    · rintro ⟨r1, m1, c1, m2, r2, m3, c2, m4, rfl, rfl, rfl⟩
      simp [canMult]

example : canAdd (dimMult [2, 3]).1 (dimMult [2, 3]).1 = true ∧
    canAdd (dimMult [2, 3]).1 (dimMult [3, 2]).1 = false ∧
    canAdd (dimMult [2, 3]).1 (dimMult [2, 3, 1]).1 = false ∧
    canMult (dimMult [2, 3]).1 (dimMult [3, 4]).1 = true ∧
    canMult (dimMult [2, 3]).1 (dimMult [2, 3]).1 = false ∧
    canMult (dimMult [6]).1 (dimMult [6]).1 = false := by decide


/-! ## range_deref (one dimension of vm_execute_range_deref) -/

theorem range_deref_exact (fr t i r : Int) :
    rangeDerefIndex fr t i = .ok r ↔
      (0 ≤ i ∧ i < (rangeLen fr t : Int) ∧ r = rangePos fr t i) := by
  simp only [rangeDerefIndex]
  split
  · constructor
    · intro h; cases h
    · intro h; omega
  · rename_i hi
    have hi' : 0 ≤ i := by omega
    by_cases hlt : i < (rangeLen fr t : Int)
    · rw [(sliceRange_single fr t i hi').1 hlt]
      constructor
      · intro h; injection h with h; exact ⟨hi', hlt, h.symm⟩
      · rintro ⟨_, _, rfl⟩; rfl
    · rw [(sliceRange_single fr t i hi').2 (by omega)]
      constructor
      · intro h; cases h
      · intro h; omega

example : rangeDerefIndex 7 3 2 = .ok 5 ∧ rangeDerefIndex 7 3 5 = .error () ∧
    rangeDerefIndex 7 3 (-1) = .error () ∧ rangeDerefIndex 4 4 0 = .ok 4 := by decide

/-! ## object_arr_append keeps the (extent, mult) vector of a 1-dimensional array consistent -/

theorem append_consistent (n : Nat) (h : n < U32) : (dimMult [n]).1 = [(n, 1)] := by
  have : prodWrap [n] 1 = n := by simp [prodWrap, Nat.mod_eq_of_lt h]
  simp only [dimMult, this, multPass]
  by_cases hn : n = 0
  · simp [hn]
  · simp [hn, Nat.div_self (Nat.pos_of_ne_zero hn)]

/-! ## axioms -/

end Never.Idx

