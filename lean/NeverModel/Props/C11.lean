import NeverModel.Lemmas.NumVm
import NeverModel.Model.NumTables
import NeverModel.Model.NumKnown
import NeverModel.Model.NumFmt
/-!
# C11 — numbers are fixed-width machine numbers with a defined promotion order

Every theorem here is about `Never.NumTables.T`, the tables REGENERATED FROM /repo's C SOURCE by
gen/numtab.py at the start of every check run (back/vmexec.c handlers, front/typecheck.c conversion
matrices and typing rules, front/emit.c opcode selection), or about Never.Num, the numeric
semantics the VM model executes.  Operand VALUES are universally quantified everywhere; nothing is
sampled.  Floats: Lean's Float32 / Float are opaque to the kernel, so statements about float
handlers are structural (same IEEE operation, same width, same operand order, no widening).

Core library only.  No sorry / admit / axiom / native_decide / bv_decide / unsafe.
`_partial` = the statement with the explicit exception the pinned tree needs;
`_counterexample` = the unrestricted statement is false whenever the pinned defect is present in
the regenerated table (premise decided on every run by `nmdrv num known`).
-/
namespace Never.C11
open Never.Num Never.CExpr Never.NumTables Never.NumKnown

/-! ## 1. every generated VM handler computes Never.Num's function, for all operand values -/

/-- `vm_execute_op_<op>_<t>` / `vm_execute_<a>_to_<b>` as written in back/vmexec.c today (getter types,
    zero guard, allocator type, C result expression as clang types it) = `Never.Num.bin / un / conv`
    (proved in Lemmas/NumVm.lean, which Props/C10 shares) -/
theorem vm_handlers_eq_model :
    ∀ r ∈ T.vmRows, ∀ a b : NVal, r.eval a b = r.sem.eval a b :=
  Never.NumVm.vm_handlers_eq_model

/-- vm_execute_op[] (read by array index): every arithmetic / conversion opcode points at one of the rows, and
    every row is reachable from an opcode -/
theorem opcode_table_closed :
    (T.opcodes.all fun p => p.2.2 < T.vmRows.length) = true ∧
    ((List.range T.vmRows.length).all fun i => T.opcodes.any fun p => p.2.2 == i) = true := by
  decide +kernel

example : ∃ r ∈ T.vmRows, r.name = "vm_execute_op_div_long" ∧ r.sem = .bin .long .div := by decide +kernel
example : T.vmRows.length ≥ 77 := by decide +kernel
example : ∃ r ∈ T.vmRows, r.sem = .bin .int .mod ∧ r.eval (.int 7) (.int 0) = .exc 1 := by decide +kernel
example : ∃ r ∈ T.vmRows, r.sem = .bin .int .div ∧
    r.eval (.int 0x80000000#32) (.int 0xffffffff#32) = .crash "SIGFPE: INT_MIN / -1" := by decide +kernel

/-! ## 2. int and long are two's complement with wrap-around and truncating division -/

/-- `int` (32 bit).  + − * neg & | ^ ~ are the BitVec operations (so they wrap: `toInt` of the result is
    the mathematical result reduced `bmod 2^32`); `/` `%` are `Int.tdiv` / `Int.tmod` on `toInt` whenever
    they do not fault; comparisons are signed; shifts by a count in [0,32) are `<<<` and arithmetic `>>>` -/
theorem int_ops_are_twos_complement (a b : BitVec 32) :
    Num.bin .int .add (.int a) (.int b) = .ok (.int (a + b)) ∧ (a + b).toInt = (a.toInt + b.toInt).bmod (2 ^ 32)
  ∧ Num.bin .int .sub (.int a) (.int b) = .ok (.int (a - b)) ∧ (a - b).toInt = (a.toInt - b.toInt).bmod (2 ^ 32)
  ∧ Num.bin .int .mul (.int a) (.int b) = .ok (.int (a * b)) ∧ (a * b).toInt = (a.toInt * b.toInt).bmod (2 ^ 32)
  ∧ Num.un .int .neg (.int a) = .ok (.int (-a)) ∧ (-a).toInt = (-a.toInt).bmod (2 ^ 32)
  ∧ Num.bin .int .band (.int a) (.int b) = .ok (.int (a &&& b))
  ∧ Num.bin .int .bor (.int a) (.int b) = .ok (.int (a ||| b))
  ∧ Num.bin .int .bxor (.int a) (.int b) = .ok (.int (a ^^^ b))
  ∧ Num.un .int .bnot (.int a) = .ok (.int (~~~a))
  ∧ (b = 0 → Num.bin .int .div (.int a) (.int b) = .exc 1 ∧ Num.bin .int .mod (.int a) (.int b) = .exc 1)
  ∧ (b ≠ 0 → ¬(a = intMin32 ∧ b = -1) →
      (∃ q, Num.bin .int .div (.int a) (.int b) = .ok (.int q) ∧ q.toInt = a.toInt.tdiv b.toInt) ∧
      (∃ m, Num.bin .int .mod (.int a) (.int b) = .ok (.int m) ∧ m.toInt = a.toInt.tmod b.toInt))
  ∧ Num.bin .int .lt (.int a) (.int b) = .ok (ofBool (decide (a.toInt < b.toInt)))
  ∧ Num.bin .int .gt (.int a) (.int b) = .ok (ofBool (decide (b.toInt < a.toInt)))
  ∧ Num.bin .int .lte (.int a) (.int b) = .ok (ofBool (decide (a.toInt ≤ b.toInt)))
  ∧ Num.bin .int .gte (.int a) (.int b) = .ok (ofBool (decide (b.toInt ≤ a.toInt)))
  ∧ Num.bin .int .eq (.int a) (.int b) = .ok (ofBool (decide (a = b)))
  ∧ Num.bin .int .neq (.int a) (.int b) = .ok (ofBool (decide (a ≠ b)))
  ∧ (0 ≤ b.toInt → b.toInt < 32 →
      Num.bin .int .shl (.int a) (.int b) = .ok (.int (a <<< b.toNat)) ∧
      Num.bin .int .shr (.int a) (.int b) = .ok (.int (a.sshiftRight b.toNat)) ∧
      (a.sshiftRight b.toNat).toInt = a.toInt >>> b.toNat) := by
  refine ⟨rfl, BitVec.toInt_add a b, rfl, BitVec.toInt_sub, rfl, BitVec.toInt_mul a b, rfl, BitVec.toInt_neg, rfl, rfl, rfl, rfl,
    ?_, ?_, rfl, rfl, rfl, rfl, ?_, ?_, ?_⟩
  · intro h; subst h; exact ⟨rfl, rfl⟩
  · intro hb hm
    have hm' : a ≠ BitVec.intMin 32 ∨ b ≠ -1#32 := Decidable.not_and_iff_or_not.mp hm
    refine ⟨⟨a.sdiv b, ?_, BitVec.toInt_sdiv_of_ne_or_ne a b hm'⟩, ⟨a.srem b, ?_, BitVec.toInt_srem a b⟩⟩
    · show (if b = 0 then NRes.exc 1 else if a = intMin32 ∧ b = -1 then _ else _) = _
      rw [if_neg hb, if_neg hm]
    · show (if b = 0 then NRes.exc 1 else if a = intMin32 ∧ b = -1 then _ else _) = _
      rw [if_neg hb, if_neg hm]
  · simp [Num.bin, binInt, ofBool]
  · simp [Num.bin, binInt, ofBool]
  · intro h0 h32
    have hc : ¬ (b.toInt < 0 ∨ b.toInt ≥ 32) := by omega
    refine ⟨?_, ?_, BitVec.toInt_sshiftRight⟩
    · simp [Num.bin, binInt, hc]
    · simp [Num.bin, binInt, hc]

/-- `long` (64 bit), the same statement -/
theorem long_ops_are_twos_complement (a b : BitVec 64) :
    Num.bin .long .add (.long a) (.long b) = .ok (.long (a + b)) ∧ (a + b).toInt = (a.toInt + b.toInt).bmod (2 ^ 64)
  ∧ Num.bin .long .sub (.long a) (.long b) = .ok (.long (a - b)) ∧ (a - b).toInt = (a.toInt - b.toInt).bmod (2 ^ 64)
  ∧ Num.bin .long .mul (.long a) (.long b) = .ok (.long (a * b)) ∧ (a * b).toInt = (a.toInt * b.toInt).bmod (2 ^ 64)
  ∧ Num.un .long .neg (.long a) = .ok (.long (-a)) ∧ (-a).toInt = (-a.toInt).bmod (2 ^ 64)
  ∧ Num.bin .long .band (.long a) (.long b) = .ok (.long (a &&& b))
  ∧ Num.bin .long .bor (.long a) (.long b) = .ok (.long (a ||| b))
  ∧ Num.bin .long .bxor (.long a) (.long b) = .ok (.long (a ^^^ b))
  ∧ Num.un .long .bnot (.long a) = .ok (.long (~~~a))
  ∧ (b = 0 → Num.bin .long .div (.long a) (.long b) = .exc 1 ∧ Num.bin .long .mod (.long a) (.long b) = .exc 1)
  ∧ (b ≠ 0 → ¬(a = intMin64 ∧ b = -1) →
      (∃ q, Num.bin .long .div (.long a) (.long b) = .ok (.long q) ∧ q.toInt = a.toInt.tdiv b.toInt) ∧
      (∃ m, Num.bin .long .mod (.long a) (.long b) = .ok (.long m) ∧ m.toInt = a.toInt.tmod b.toInt))
  ∧ Num.bin .long .lt (.long a) (.long b) = .ok (ofBool (decide (a.toInt < b.toInt)))
  ∧ Num.bin .long .gt (.long a) (.long b) = .ok (ofBool (decide (b.toInt < a.toInt)))
  ∧ Num.bin .long .lte (.long a) (.long b) = .ok (ofBool (decide (a.toInt ≤ b.toInt)))
  ∧ Num.bin .long .gte (.long a) (.long b) = .ok (ofBool (decide (b.toInt ≤ a.toInt)))
  ∧ Num.bin .long .eq (.long a) (.long b) = .ok (ofBool (decide (a = b)))
  ∧ Num.bin .long .neq (.long a) (.long b) = .ok (ofBool (decide (a ≠ b)))
  ∧ (0 ≤ b.toInt → b.toInt < 64 →
      Num.bin .long .shl (.long a) (.long b) = .ok (.long (a <<< b.toNat)) ∧
      Num.bin .long .shr (.long a) (.long b) = .ok (.long (a.sshiftRight b.toNat)) ∧
      (a.sshiftRight b.toNat).toInt = a.toInt >>> b.toNat) := by
  refine ⟨rfl, BitVec.toInt_add a b, rfl, BitVec.toInt_sub, rfl, BitVec.toInt_mul a b, rfl, BitVec.toInt_neg, rfl, rfl, rfl, rfl,
    ?_, ?_, rfl, rfl, rfl, rfl, ?_, ?_, ?_⟩
  · intro h; subst h; exact ⟨rfl, rfl⟩
  · intro hb hm
    have hm' : a ≠ BitVec.intMin 64 ∨ b ≠ -1#64 := Decidable.not_and_iff_or_not.mp hm
    refine ⟨⟨a.sdiv b, ?_, BitVec.toInt_sdiv_of_ne_or_ne a b hm'⟩, ⟨a.srem b, ?_, BitVec.toInt_srem a b⟩⟩
    · show (if b = 0 then NRes.exc 1 else if a = intMin64 ∧ b = -1 then _ else _) = _
      rw [if_neg hb, if_neg hm]
    · show (if b = 0 then NRes.exc 1 else if a = intMin64 ∧ b = -1 then _ else _) = _
      rw [if_neg hb, if_neg hm]
  · simp [Num.bin, binLong, ofBool]
  · simp [Num.bin, binLong, ofBool]
  · intro h0 h64
    have hc : ¬ (b.toInt < 0 ∨ b.toInt ≥ 64) := by omega
    refine ⟨?_, ?_, BitVec.toInt_sshiftRight⟩
    · simp [Num.bin, binLong, hc]
    · simp [Num.bin, binLong, hc]

/-- int -> long is sign extension (value preserved), long -> int is truncation (value mod 2^32, signed) -/
theorem int_long_conversions (a : BitVec 32) (l : BitVec 64) :
    (∃ v, Num.conv .int .long (.int a) = .ok (.long v) ∧ v.toInt = a.toInt)
  ∧ (∃ v, Num.conv .long .int (.long l) = .ok (.int v) ∧ v.toInt = l.toInt.bmod (2 ^ 32)) := by
  refine ⟨⟨a.signExtend 64, rfl, BitVec.toInt_signExtend_of_le (by decide)⟩, ⟨l.truncate 32, rfl, ?_⟩⟩
  rw [BitVec.truncate_eq_setWidth, BitVec.toInt_setWidth]
  have h := BitVec.toInt_eq_toNat_bmod l
  rw [h]
  exact (Int.bmod_bmod_of_dvd (by decide : (2:Nat) ^ 32 ∣ 2 ^ 64)).symm

/-- the same facts read off the handlers GENERATED from vmexec.c (composition with §1) -/
theorem generated_int_handlers_wrap (r : VmRow) (hr : r ∈ T.vmRows) (a b : BitVec 32) :
    (r.sem = .bin .int .add → r.eval (.int a) (.int b) = .ok (.int (a + b))) ∧
    (r.sem = .bin .int .sub → r.eval (.int a) (.int b) = .ok (.int (a - b))) ∧
    (r.sem = .bin .int .mul → r.eval (.int a) (.int b) = .ok (.int (a * b))) ∧
    (r.sem = .bin .int .div → b = 0 → r.eval (.int a) (.int b) = .exc 1) ∧
    (r.sem = .bin .int .mod → b = 0 → r.eval (.int a) (.int b) = .exc 1) := by
  have h := vm_handlers_eq_model r hr (.int a) (.int b)
  refine ⟨?_, ?_, ?_, ?_, ?_⟩ <;> intro hs <;> rw [h, hs]
  · rfl
  · rfl
  · rfl
  · intro hb; subst hb; rfl
  · intro hb; subst hb; rfl

example : Num.bin .int .add (.int 0x7fffffff#32) (.int 1#32) = .ok (.int 0x80000000#32) := by decide
example : Num.bin .int .div (.int (-7)) (.int 2) = .ok (.int (-3)) := by decide
example : Num.bin .int .mod (.int (-7)) (.int 2) = .ok (.int (-1)) := by decide
example : Num.bin .long .shr (.long (-16)) (.long 2) = .ok (.long (-4)) := by decide

/-! ## 3. promotion: int < long < float < double -/

def numeric : List Comb := [.int, .long, .float, .double]

def join (l r : Comb) : Comb :=
  match l.rank, r.rank with
  | some a, some b => if a ≤ b then r else l
  | _, _ => l

/-- what one cell of the promotion matrix must say -/
def PromotionCellOk (c : Cell) : Bool :=
  c.res == join c.l c.r &&
  (match c.l.rank, c.r.rank with
   | some a, some b =>
     (if a < b then c.convL == some (c.l.repr, (join c.l c.r).repr) && c.convR == none
      else if b < a then c.convR == some (c.r.repr, (join c.l c.r).repr) && c.convL == none
      else c.convL == none && c.convR == none)
   | _, _ => false) && !c.enumL && !c.enumR

/-- a mixed binary operation promotes along int -> long -> float -> double: all 16 cells of
    expr_conv_basic_type exist, the result type is the maximum, the conversion is applied to the lower
    operand only and is the one from its type to the result type; no other cell exists -/
theorem promotion_is_join :
    (∀ l ∈ numeric, ∀ r ∈ numeric, ∃ c, T.basic.find? (fun c => c.l == l && c.r == r) = some c ∧ PromotionCellOk c = true)
  ∧ (∀ c ∈ T.basic, c.l ∈ numeric ∧ c.r ∈ numeric) := by
  decide +kernel

example : (T.basic.find? (fun c => c.l == .float && c.r == .long)).map (fun c => (c.convR, c.res))
    = some (some (.long, .float), .float) := by decide +kernel

/-- conv_to_comb_type: an inserted conversion node carries its target type (this is what the emitter's
    operand-type tests see) -/
theorem conversion_node_type : (T.convComb.all fun p => p.2 == Comb.ofNTy p.1.2) = true ∧ T.convComb.length = 12 := by
  decide +kernel

/-! ## 4. assignment converts the right side to the left side's type -/

def AssCellOk (c : Cell) : Bool :=
  c.res == c.l && c.convL == none &&
  (match c.l.rank, c.r.rank with
   | some a, some b => if a = b then c.convR == none else c.convR == some (c.r.repr, c.l.repr)
   | _, _ => c.convR == none)

def AssignmentConvertsToLeft (cells : List Cell) : Prop :=
  (∀ l ∈ numeric, ∀ r ∈ numeric, ∃ c, cells.find? (fun c => c.l == l && c.r == r) = some c ∧ AssCellOk c = true)
  ∧ (∀ c ∈ cells, AssCellOk c = true)

instance (cells : List Cell) : Decidable (AssignmentConvertsToLeft cells) := by
  unfold AssignmentConvertsToLeft; exact inferInstance

/-- every cell of expr_conv_ass_type except (int, double) -/
theorem assignment_converts_to_left_partial :
    (∀ l ∈ numeric, ∀ r ∈ numeric, (l, r) ≠ (Comb.int, Comb.double) →
        ∃ c, T.ass.find? (fun c => c.l == l && c.r == r) = some c ∧ AssCellOk c = true)
  ∧ (∀ c ∈ T.ass, (c.l, c.r) ≠ (Comb.int, Comb.double) → AssCellOk c = true) := by
  decide +kernel

/-- **all cells** of expr_conv_ass_type: the result type is the left type and the conversion goes right → left
(full strength since the `fix:` commit 8e26181 repaired the (int, double) cell; regenerated from the source on every run) -/
theorem assignment_converts_to_left : AssignmentConvertsToLeft T.ass := by
  decide +kernel

/-- while the pinned cell is in the table, the unrestricted statement is false -/
theorem assignment_converts_to_left_counterexample :
    pinnedAssIntDouble ∈ T.ass → ¬ AssignmentConvertsToLeft T.ass := by
  intro hmem h
  have := h.2 pinnedAssIntDouble hmem
  revert this; decide

/-- consequence at run time (the tag assertion of C01): with the pinned typing rule, `i = d` converts d to
    an int object and then runs OP_ASS_DOUBLE (gc_get_double) on it — for every value of d -/
theorem assignment_int_double_asserts (opc : Nat) (h1 : T.rule .ass .int (some .double) = some (pinnedAssRule opc))
    (ha : T.assOpcodes.find? (fun p => p.1 == opc) = some (opc, "BYTECODE_OP_ASS_DOUBLE", .double, .double))
    (x : BitVec 64) : ∀ w, T.runAss .int .double (.double x) ≠ .ok w := by
  intro w
  unfold Tables.runAss
  rw [h1]
  simp only [pinnedAssRule, Tables.applyConv]
  cases hc : T.convHandler (.double, .int) with
  | none => simp [noOpcode]
  | some h =>
    simp only []
    cases he : h.eval (.double x) (.double x) with
    | ok v' =>
      simp only [ha]
      -- whatever the conversion handler produced, OP_ASS_DOUBLE needs a double object there and an int variable
      cases v' <;> simp [NVal.ty, Comb.repr]
    | exc e => simp
    | crash s => simp
    | tag => simp

/-- all assignment opcodes copy at one type: gc_get_<t> of the value, gc_set_<t> of the variable -/
theorem ass_handlers_same_type : (T.assOpcodes.all fun r => r.2.2.1 == r.2.2.2) = true ∧ T.assOpcodes.length = 5 := by
  decide +kernel

/-- argument / return / typed binding (param_expr_cmp): the expression is converted to the declared type -/
theorem param_converts_to_declared :
    (∀ l ∈ numeric, ∀ r ∈ numeric, ∃ c, T.param.find? (fun c => c.l == l && c.r == r) = some c ∧ AssCellOk c = true)
  ∧ (∀ c ∈ T.param, AssCellOk c = true) := by
  decide +kernel

example : ∃ c ∈ T.ass, c.l = .long ∧ c.r = .double ∧ c.convR = some (.double, .long) := by decide +kernel

/-! ## 5. the emitter selects, for each source operator and operand types, the handler of that operator -/

def srcBin : SrcOp → Option BinOp
  | .add => some .add | .sub => some .sub | .mul => some .mul | .div => some .div | .mod => some .mod
  | .lt => some .lt | .gt => some .gt | .lte => some .lte | .gte => some .gte | .eq => some .eq | .neq => some .neq
  | .bin_and => some .band | .bin_or => some .bor | .bin_xor => some .bxor | .bin_shl => some .shl | .bin_shr => some .shr
  | _ => none
def srcUn : SrcOp → Option UnOp
  | .neg => some .neg | .not => some .not | .bin_not => some .bnot | _ => none

/-- the Never.Num function a source operator must compute when its (converted) operands have representation t -/
def expectedSem (op : SrcOp) (t : NTy) : Option Sem :=
  match srcBin op, srcUn op with
  | some b, _ => some (.bin t b)
  | _, some u => some (.un t u)
  | _, _ => none

/-- rule is fine: it has an opcode whose handler is the operator's own, at the representation type of the
    operands as the emitter sees them (both equal) -/
def RuleOk (T : Tables) (r : Rule) : Bool :=
  if r.op == .and || r.op == .or || r.op == .ass then true else
  (match r.r2 with | some r2 => r.l2.repr == r2.repr | none => true) &&
  (match r.opcode with
   | none => false
   | some (opc, _) => match T.handler opc, expectedSem r.op r.l2.repr with
     | some h, some s => decide (h.sem = s)
     | _, _ => false)

/-- the defects of the pinned emitter: `!=` on two bools selects OP_EQ_INT; comparisons and `%` with an
    ITEM-enum operand are typed by the typechecker but have no clause in expr_<op>_emit -/
def ruleExcused (r : Rule) : Bool :=
  -- (`!=` on two bools was repaired by the `fix:` commit 9db5579 and is no longer excused)
  ((r.l == .enumtype || r.r == some .enumtype) && !(r.op == .eq && r.l == .enumtype && r.r == some .enumtype) &&
    (r.op == .lt || r.op == .gt || r.op == .lte || r.op == .gte || r.op == .eq || r.op == .neq || r.op == .mod))

theorem emitter_selects_operator_handler_partial :
    ∀ r ∈ T.rules, ruleExcused r = false → RuleOk T r = true := by
  decide +kernel

/-- while expr_neq_emit selects OP_EQ_INT for two bools, the unrestricted statement is false -/
theorem emitter_selects_operator_handler_counterexample (opc : Nat) :
    pinnedNeqBoolRule opc ∈ T.rules → (T.handler opc).map (·.sem) = some (.bin .int .eq) →
    ¬ (∀ r ∈ T.rules, RuleOk T r = true) := by
  intro hmem hh hall
  have := hall (pinnedNeqBoolRule opc) hmem
  simp [RuleOk, pinnedNeqBoolRule, expectedSem, srcBin, srcUn, Comb.repr] at this
  cases hx : T.handler opc with
  | none => rw [hx] at hh; simp at hh
  | some h => rw [hx] at hh this; simp at hh this; rw [hh] at this; cases this

example : ∃ r ∈ T.rules, r.op = .add ∧ r.l = .int ∧ r.r = some .double ∧ (r.opcode.map (·.2)) = some "BYTECODE_OP_ADD_DOUBLE" := by
  decide +kernel

/-! ## 6. float and double operations are performed in their own precision -/

/-- every node of the expression is computed at type `t` on operands read at type `t`: no cast at all, so no
    widening to double and no narrowing; comparisons may produce int -/
def ownPrecision (t : NTy) : CExpr → Bool
  | .opA t' => t' == t
  | .opB t' => t' == t
  | .lit t' _ => t' == t
  | .un _ t' e => t' == t && ownPrecision t e
  | .bin _ t' l r => t' == t && ownPrecision t l && ownPrecision t r
  | .cast _ _ _ => false

def isFloatSem : Sem → Option NTy
  | .bin .float _ => some .float
  | .bin .double _ => some .double
  | .un .float _ => some .float
  | .un .double _ => some .double
  | _ => none

theorem float_ops_in_own_precision :
    ∀ r ∈ T.vmRows, ∀ t, isFloatSem r.sem = some t →
      r.getA = t ∧ (r.getB = none ∨ r.getB = some t) ∧ ownPrecision t r.expr = true ∧
      (∀ g, r.guard = some g → ownPrecision t g.1 = true) := by
  decide +kernel

example : ∃ r ∈ T.vmRows, isFloatSem r.sem = some .float ∧ r.expr = .bin .add .float (.opA .float) (.opB .float) := by
  decide +kernel

/-! ## 7. `%d` / `%lld` print the decimal numeral of the signed value -/

open Never.NumFmt in
theorem digitChar_toNat : ∀ d, d < 10 → (digitChar d).toNat = 48 + d := by decide

open Never.NumFmt in
/-- the digit loop produces the decimal digits of `n`: reading them back gives `n` -/
theorem natDigits_value (n : Nat) : (natDigits n).foldl (fun acc c => acc * 10 + (c.toNat - 48)) 0 = n := by
  induction n using Nat.strongRecOn with
  | _ n ih =>
    unfold natDigits
    split
    · rename_i h
      simp [digitChar_toNat n h]
    · rename_i h
      rw [List.foldl_append, ih (n / 10) (by omega)]
      simp [digitChar_toNat (n % 10) (by omega)]
      omega

open Never.NumFmt in
/-- `%d` / `%lld`: an optional minus sign followed by the decimal digits of the absolute value -/
theorem fmt_int (x : Int) :
    fmtInt x = (if x < 0 then "-" else "") ++ String.ofList (natDigits x.natAbs) := by
  cases x with
  | ofNat n =>
    have h : ¬ ((n : Int) < 0) := by omega
    simp [fmtInt, fmtNat, h]
  | negSucc n =>
    have h : (Int.negSucc n) < 0 := Int.negSucc_lt_zero n
    simp [fmtInt, fmtNat, h]

example : NumFmt.fmtInt (-2147483648) = "-2147483648" := by decide +kernel
example : NumFmt.fmtVal (.long 0x8000000000000000#64) = "-9223372036854775808" := by decide +kernel

end Never.C11
