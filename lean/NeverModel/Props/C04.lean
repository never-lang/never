import NeverModel.Props.C09
import NeverModel.Model.Vm
/-!
# C04 — garbage collection never disturbs a running program

Heap level (all heaps, all root sets, all histories): a collection keeps every cell
reachable from the roots allocated with bit-identical payload and unchanged outgoing
references, leaves no mark behind and never fails on a consistent heap.
VM level: `gcRun` (the model of the `gc_run` call in SLIDE / RET) changes nothing of the
machine but the heap, and only through `Gc.collect`/`Gc.run`.
The VM-level statement of the property (independence of result/output/exception from the
schedule) is checked by running every program under many schedules on both the real VM and
this model in lockstep (checks/c04.py); `roots_complete_at_safe_points` is not proved.
Placement of collections at heap level: `collect_preserves_liveness` (same reachable set after as
before), `collect_preserves_reachable_graph` (same edges), `collect_twice_defined` (a second
collection at the same point is defined and changes no object), `collect_keeps_wellTyped`.
-/
namespace Never.C04
open Never Mem

/-- an object the program can still reach is never reclaimed or altered by a collection -/
theorem collect_preserves_reachable {g g' : Gc} {st : List Slot} {gp : Nat} (inv : Inv g)
    (wt : g.wellTyped (.collect st gp) = true) (h : g.collect st gp = some g') :
    ∀ x, Live g.mem (allRoots st gp) x →
      objAt g'.mem x = objAt g.mem x ∧ (objAt g'.mem x).isSome = true ∧ marked g'.mem x = false := by
  intro x hx
  obtain ⟨i2, e2, k2, _⟩ := C09.collect_exact inv wt h
  obtain ⟨fl, il⟩ := i2
  exact ⟨k2 x hx, (e2 x).mpr hx, il.unmarked x⟩

/-- the objects after a collection: those of the live cells, and nothing else -/
theorem collect_objAt {g g' : Gc} {st : List Slot} {gp : Nat} (inv : Inv g)
    (wt : g.wellTyped (.collect st gp) = true) (h : g.collect st gp = some g') (x : Nat) :
    (Live g.mem (allRoots st gp) x → objAt g'.mem x = objAt g.mem x) ∧
    (¬ Live g.mem (allRoots st gp) x → objAt g'.mem x = none) := by
  obtain ⟨_, e2, k2, _⟩ := C09.collect_exact inv wt h
  exact ⟨k2 x, fun hl => Option.not_isSome_iff_eq_none.mp (fun hs => hl ((e2 x).mp hs))⟩

/-- the references held by a surviving cell still point at surviving cells with the same contents
(so the whole reachable graph is preserved, not only its nodes) -/
theorem collect_preserves_edges {g g' : Gc} {st : List Slot} {gp : Nat} (inv : Inv g)
    (wt : g.wellTyped (.collect st gp) = true) (h : g.collect st gp = some g')
    {x r : Nat} {o : Obj} (hx : Live g.mem (allRoots st gp) x) (ho : objAt g.mem x = some o)
    (hr : r ∈ o.refs) (hr0 : r ≠ 0) (hro : (objAt g.mem r).isSome = true) :
    objAt g'.mem r = objAt g.mem r := by
  obtain ⟨_, _, k2, _⟩ := C09.collect_exact inv wt h
  apply k2
  obtain ⟨hx0, hxo, root, hroot, p⟩ := hx
  exact ⟨hr0, hro, root, hroot, Path.tail p ⟨o, ho, hr⟩⟩

/-- paths after a collection are paths before it: a collection creates no reference -/
theorem collect_path_back {g g' : Gc} {st : List Slot} {gp : Nat} (inv : Inv g)
    (wt : g.wellTyped (.collect st gp) = true) (h : g.collect st gp = some g')
    {r x : Nat} (p : Path g'.mem r x) : Path g.mem r x := by
  obtain ⟨_, e2, k2, _⟩ := C09.collect_exact inv wt h
  induction p with
  | refl => exact Path.refl _
  | tail q e ih =>
    obtain ⟨o, ho, hr⟩ := e
    rename_i b c
    have hl : Live g.mem (allRoots st gp) b := (e2 b).mp (by rw [ho]; rfl)
    exact Path.tail ih ⟨o, by rw [← k2 b hl]; exact ho, hr⟩

/-- paths from a root that exist before a collection exist after it -/
theorem collect_path_forth {g g' : Gc} {st : List Slot} {gp : Nat} (inv : Inv g)
    (wt : g.wellTyped (.collect st gp) = true) (h : g.collect st gp = some g')
    {r x : Nat} (hr : r ∈ allRoots st gp) (p : Path g.mem r x) : Path g'.mem r x := by
  obtain ⟨_, _, k2, _⟩ := C09.collect_exact inv wt h
  obtain ⟨fl, il⟩ := inv
  induction p with
  | refl => exact Path.refl _
  | tail q e ih =>
    obtain ⟨o, ho, hc⟩ := e
    rename_i b c
    have hb0 : b ≠ 0 := by
      intro hb; rw [hb, il.nil_none] at ho; cases ho
    have hl : Live g.mem (allRoots st gp) b := ⟨hb0, by rw [ho]; rfl, r, hr, q⟩
    exact Path.tail ih ⟨o, by rw [k2 b hl]; exact ho, hc⟩

/-- **the program sees the same object graph after a collection as before it**: with the same
roots, exactly the same cells are reachable (no survivor lost, nothing resurrected, no cell moved) -/
theorem collect_preserves_liveness {g g' : Gc} {st : List Slot} {gp : Nat} (inv : Inv g)
    (wt : g.wellTyped (.collect st gp) = true) (h : g.collect st gp = some g') (x : Nat) :
    Live g'.mem (allRoots st gp) x ↔ Live g.mem (allRoots st gp) x := by
  obtain ⟨_, e2, _, _⟩ := C09.collect_exact inv wt h
  constructor
  · rintro ⟨_, hs, _⟩
    exact (e2 x).mp hs
  · intro hl
    obtain ⟨h0, _, r, hr, p⟩ := hl
    exact ⟨h0, (e2 x).mpr ⟨h0, ‹_›, r, hr, p⟩, r, hr, collect_path_forth inv wt h hr p⟩

/-- **placement of collections does not matter at heap level**: a second collection right after
the first (same roots) finds nothing to reclaim and alters no cell's object — so "collect at
this safe point" and "collect at this safe point twice" leave the same heap contents -/
theorem collect_twice_same_objects {g g' g'' : Gc} {st : List Slot} {gp : Nat} (inv : Inv g)
    (wt : g.wellTyped (.collect st gp) = true) (h : g.collect st gp = some g')
    (wt' : g'.wellTyped (.collect st gp) = true) (h' : g'.collect st gp = some g'') (x : Nat) :
    objAt g''.mem x = objAt g'.mem x := by
  have inv' := (C09.collect_exact inv wt h).1
  have hl' := collect_preserves_liveness inv wt h x
  by_cases hl : Live g.mem (allRoots st gp) x
  · exact (collect_objAt inv' wt' h' x).1 (hl'.mpr hl)
  · rw [(collect_objAt inv wt h x).2 hl, (collect_objAt inv' wt' h' x).2 (mt hl'.mp hl)]

/-- the precondition of a collection (root slots and `gp` inside the heap) survives a collection:
the heap is never resized -/
theorem collect_keeps_wellTyped {g g' : Gc} {st st' : List Slot} {gp gp' : Nat} (inv : Inv g)
    (wt : g.wellTyped (.collect st gp) = true) (h : g.collect st gp = some g') :
    g'.wellTyped (.collect st' gp') = g.wellTyped (.collect st' gp') := by
  obtain ⟨fl, il⟩ := inv
  have wt0 := wt
  simp only [Gc.wellTyped, Bool.and_eq_true, decide_eq_true_eq] at wt
  obtain ⟨g2, h2, _, _, _, _, hsz⟩ := collect_spec il wt.1 wt.2
  rw [h2] at h; cases h
  simp only [Gc.wellTyped, hsz, slotOk_congr hsz]

/-- **a collection can be placed at any safe point, any number of times**: right after a
collection a second one (same roots) is defined, reclaims nothing and alters no cell's object -/
theorem collect_twice_defined {g g' : Gc} {st : List Slot} {gp : Nat} (inv : Inv g)
    (wt : g.wellTyped (.collect st gp) = true) (h : g.collect st gp = some g') :
    ∃ g'', g'.collect st gp = some g'' ∧ Inv g'' ∧ ∀ x, objAt g''.mem x = objAt g'.mem x := by
  have wt' : g'.wellTyped (.collect st gp) = true := by rw [collect_keeps_wellTyped inv wt h]; exact wt
  obtain ⟨inv', _⟩ := C09.collect_exact inv wt h
  have hd := C09.collect_defined inv' wt'
  cases h' : g'.collect st gp with
  | none => rw [h'] at hd; cases hd
  | some g'' =>
    exact ⟨g'', rfl, (C09.collect_exact inv' wt' h').1, collect_twice_same_objects inv wt h wt' h'⟩

/-- **whichever way the trigger decides** (`gc_run`: collect only above the 80 % mark, so it
depends on the heap size): every reachable cell keeps its object, and the reachable set is the
same — the three schedules "never", "by the rule", "always" agree on what the program can see -/
theorem run_any_schedule_same_view {g gr gc : Gc} {st : List Slot} {gp : Nat} (inv : Inv g)
    (wt : g.wellTyped (.collect st gp) = true)
    (hr : g.run st gp = some gr) (hc : g.collect st gp = some gc) (x : Nat) :
    (Live gr.mem (allRoots st gp) x ↔ Live g.mem (allRoots st gp) x) ∧
    (Live gc.mem (allRoots st gp) x ↔ Live g.mem (allRoots st gp) x) ∧
    (Live g.mem (allRoots st gp) x →
      objAt gr.mem x = objAt g.mem x ∧ objAt gc.mem x = objAt g.mem x) := by
  have hk := (C09.collect_exact inv wt hc).2.2.1
  unfold Gc.run at hr
  split at hr
  · rw [hc] at hr; cases hr
    exact ⟨collect_preserves_liveness inv wt hc x, collect_preserves_liveness inv wt hc x,
      fun hl => ⟨hk x hl, hk x hl⟩⟩
  · cases hr
    exact ⟨Iff.rfl, collect_preserves_liveness inv wt hc x, fun hl => ⟨rfl, hk x hl⟩⟩

/-- **what survives depends only on the set of roots**, not on where on the stack they sit, how
often they occur or what the non-reference words are: two collections of one heap from root
lists with the same members leave the same object in every cell -/
theorem collect_depends_on_root_set {g g1 g2 : Gc} {st1 st2 : List Slot} {gp1 gp2 : Nat} (inv : Inv g)
    (wt1 : g.wellTyped (.collect st1 gp1) = true) (h1 : g.collect st1 gp1 = some g1)
    (wt2 : g.wellTyped (.collect st2 gp2) = true) (h2 : g.collect st2 gp2 = some g2)
    (hroots : ∀ r, r ∈ allRoots st1 gp1 ↔ r ∈ allRoots st2 gp2) (x : Nat) :
    objAt g1.mem x = objAt g2.mem x := by
  have hl : Live g.mem (allRoots st1 gp1) x ↔ Live g.mem (allRoots st2 gp2) x := by
    unfold Live
    constructor
    · rintro ⟨a, b, r, hr, p⟩; exact ⟨a, b, r, (hroots r).mp hr, p⟩
    · rintro ⟨a, b, r, hr, p⟩; exact ⟨a, b, r, (hroots r).mpr hr, p⟩
  by_cases hx : Live g.mem (allRoots st1 gp1) x
  · rw [(collect_objAt inv wt1 h1 x).1 hx, (collect_objAt inv wt2 h2 x).1 (hl.mp hx)]
  · rw [(collect_objAt inv wt1 h1 x).2 hx, (collect_objAt inv wt2 h2 x).2 (mt hl.mpr hx)]

/-- **a cell the program can still reach is never handed out again**: the cell an allocation gets
right after a collection was not reachable from the roots of that collection -/
theorem alloc_after_collect_not_live {g g' g'' : Gc} {st : List Slot} {gp : Nat} {o : Obj} {loc : Nat}
    (inv : Inv g) (wt : g.wellTyped (.collect st gp) = true) (h : g.collect st gp = some g')
    (wta : g'.wellTyped (.alloc o) = true) (ha : g'.alloc o = some (g'', loc)) :
    ¬ Live g.mem (allRoots st gp) loc ∧
    ∀ x, Live g.mem (allRoots st gp) x → objAt g''.mem x = objAt g.mem x := by
  obtain ⟨inv', e2, k2, _⟩ := C09.collect_exact inv wt h
  obtain ⟨fl, il⟩ := inv'
  obtain ⟨_, _, _, hnone, _, hmem, _⟩ := inv_alloc il wta ha
  have hnl : ¬ Live g.mem (allRoots st gp) loc := by
    intro hl
    have := (e2 loc).mpr hl
    rw [hnone] at this; cases this
  refine ⟨hnl, fun x hx => ?_⟩
  have hne : x ≠ loc := fun e => hnl (e ▸ hx)
  rw [← k2 x hx, hmem, objAt_setObj]
  have hne' : ¬ (loc = x ∧ loc < g'.mem.size) := fun c => hne c.1.symm
  simp only [hne', if_false]

/-- what a cell reachable before the collection points at is reachable after it with the same
contents, to any depth: the whole reachable graph is isomorphic (identity map) -/
theorem collect_preserves_reachable_graph {g g' : Gc} {st : List Slot} {gp : Nat} (inv : Inv g)
    (wt : g.wellTyped (.collect st gp) = true) (h : g.collect st gp = some g')
    {x y : Nat} (hx : Live g.mem (allRoots st gp) x) :
    Edge g'.mem x y ↔ Edge g.mem x y := by
  obtain ⟨_, _, k2, _⟩ := C09.collect_exact inv wt h
  unfold Edge
  rw [k2 x hx]

/-- the collection called from the VM (SLIDE / RET) touches nothing but the heap, and the new
heap is the result of `Gc.collect` / `Gc.run` on the stack `[0..sp]` and `gp` (or the old heap) -/
theorem collect_leaves_registers (vm vm' : Vm.Vm) (h : Vm.gcRunPure vm = .ok vm') :
    vm'.sp = vm.sp ∧ vm'.fp = vm.fp ∧ vm'.pp = vm.pp ∧ vm'.gp = vm.gp ∧ vm'.ip = vm.ip ∧
    vm'.stack = vm.stack ∧ vm'.running = vm.running ∧ vm'.exception = vm.exception ∧ vm'.out = vm.out ∧
    (vm'.gc = vm.gc ∨
      vm.gc.collect (vm.stack.extract 0 (vm.sp + 1).toNat).toList vm.gp = some vm'.gc ∨
      vm.gc.run (vm.stack.extract 0 (vm.sp + 1).toNat).toList vm.gp = some vm'.gc) := by
  unfold Vm.gcRunPure at h
  split at h
  · cases h; simp
  · simp only at h
    split at h
    · rename_i g hg
      cases h
      refine ⟨rfl, rfl, rfl, rfl, rfl, rfl, rfl, rfl, rfl, ?_⟩
      right
      split at hg
      · exact Or.inl hg
      · exact Or.inr hg
    · cases h

/-- the root slots of a safe point: the stack words `[0..sp]` -/
def safeRoots (vm : Vm.Vm) : List Slot := (vm.stack.extract 0 (vm.sp + 1).toNat).toList

/-- **at a safe point, under every schedule** (`gcMode` 0: the 80 % rule, 1: collect every time,
2: never): the machine goes on with the same registers, stack and output, the same set of cells
reachable from its stack and `gp`, and the same object in each of them -/
theorem safe_point_any_mode_same_view (vm vm' : Vm.Vm) (inv : Inv vm.gc)
    (wt : vm.gc.wellTyped (.collect (safeRoots vm) vm.gp) = true)
    (h : Vm.gcRunPure vm = .ok vm') (x : Nat) :
    vm'.stack = vm.stack ∧ vm'.sp = vm.sp ∧ vm'.gp = vm.gp ∧ vm'.out = vm.out ∧
    (Live vm'.gc.mem (allRoots (safeRoots vm) vm.gp) x ↔ Live vm.gc.mem (allRoots (safeRoots vm) vm.gp) x) ∧
    (Live vm.gc.mem (allRoots (safeRoots vm) vm.gp) x → objAt vm'.gc.mem x = objAt vm.gc.mem x) := by
  have hd := C09.collect_defined inv wt
  cases hc : vm.gc.collect (safeRoots vm) vm.gp with
  | none => rw [hc] at hd; cases hd
  | some gcl =>
    unfold Vm.gcRunPure at h
    split at h
    · cases h; exact ⟨rfl, rfl, rfl, rfl, Iff.rfl, fun _ => rfl⟩
    · simp only at h
      split at h
      · rename_i g hg
        cases h
        refine ⟨rfl, rfl, rfl, rfl, ?_⟩
        split at hg
        · have : g = gcl := by
            have := hg.symm.trans hc; cases this; rfl
          subst this
          exact ⟨collect_preserves_liveness inv wt hc x, (C09.collect_exact inv wt hc).2.2.1 x⟩
        · have v := run_any_schedule_same_view inv wt hg hc x
          exact ⟨v.1, fun hl => (v.2.2 hl).1⟩
      · cases h

/-- a safe point never fails on a consistent heap, under any schedule -/
theorem safe_point_never_fails (vm : Vm.Vm) (inv : Inv vm.gc)
    (wt : vm.gc.wellTyped (.collect (safeRoots vm) vm.gp) = true) :
    ∃ vm', Vm.gcRunPure vm = .ok vm' := by
  have hd := C09.collect_defined inv wt
  cases hc : vm.gc.collect (safeRoots vm) vm.gp with
  | none => rw [hc] at hd; cases hd
  | some gcl =>
    unfold Vm.gcRunPure
    split
    · exact ⟨_, rfl⟩
    · simp only
      split
      · exact ⟨_, rfl⟩
      · rename_i hn
        exfalso
        split at hn
        · exact absurd (hn.symm.trans hc) (by simp)
        · unfold Gc.run at hn
          split at hn
          · exact absurd (hn.symm.trans hc) (by simp)
          · cases hn

/-- a concrete non-trivial instance of the hypotheses -/
example : Inv ((Gc.new 6).exec C09.exPrefix) ∧ ((Gc.new 6).exec C09.exPrefix).wellTyped C09.exCollect = true :=
  ⟨C09.inv_history 6 (by decide) _, by decide +kernel⟩

/-- … and on that state the collection is defined, so `collect_preserves_liveness` and
`collect_twice_defined` speak about an actual collection, twice over -/
example : ∃ g' g'', ((Gc.new 6).exec C09.exPrefix).collect [.addr 4, .stk 3, .unknown] 1 = some g' ∧
    g'.collect [.addr 4, .stk 3, .unknown] 1 = some g'' ∧ ∀ x, objAt g''.mem x = objAt g'.mem x := by
  have inv : Inv ((Gc.new 6).exec C09.exPrefix) := C09.inv_history 6 (by decide) _
  have wt : ((Gc.new 6).exec C09.exPrefix).wellTyped C09.exCollect = true := by decide +kernel
  have hd := C09.collect_defined inv wt
  cases h : ((Gc.new 6).exec C09.exPrefix).collect [.addr 4, .stk 3, .unknown] 1 with
  | none => rw [h] at hd; cases hd
  | some g' =>
    obtain ⟨g'', h2, _, h3⟩ := collect_twice_defined inv wt h
    exact ⟨g', g'', rfl, h2, h3⟩

/-- non-vacuity at VM level: a machine with the heap of the example above, two stack words holding
references into it and `gp` = 1, in "collect every time" mode, meets the hypotheses of
`safe_point_any_mode_same_view` and goes through the safe point -/
def exVm : Vm.Vm :=
  { Vm.Vm.new 6 4 1 with gc := (Gc.new 6).exec C09.exPrefix, stack := #[.addr 4, .stk 3, .unknown, .unknown], sp := 1, gp := 1 }

example : Inv exVm.gc ∧ exVm.gc.wellTyped (.collect (safeRoots exVm) exVm.gp) = true ∧
    ∃ vm', Vm.gcRunPure exVm = .ok vm' := by
  have hg : exVm.gc = (Gc.new 6).exec C09.exPrefix := rfl
  have hs : safeRoots exVm = [.addr 4, .stk 3] := by
    simp [safeRoots, exVm, Vm.Vm.new]
  have inv : Inv exVm.gc := by rw [hg]; exact C09.inv_history 6 (by decide) _
  have wt : exVm.gc.wellTyped (.collect (safeRoots exVm) exVm.gp) = true := by
    rw [hs, hg]; decide +kernel
  exact ⟨inv, wt, safe_point_never_fails exVm inv wt⟩

end Never.C04
