import NeverModel.Lemmas.ExcTab
import NeverModel.Lemmas.Frame
import NeverModel.Lemmas.VmIpSound
/-!
# C03 — run-time faults become exceptions delivered to the right catch clause

Part 1 (this section): the handler lookup `exception_tab_search` (back/exctab.c), model
`NeverModel/Model/ExcTab.lean`, tied by correspondence (`harness/h_exc.c`: random tables and
every table the emitter builds).  Property theorems only; proofs in `Lemmas/ExcTab.lean`.
-/
namespace Never.C03
open Never

/-- on a well-formed table (first block 0, strictly increasing, sentinel `UINT_MAX`) the lookup
for any fault address below the sentinel returns the handler of **the** block containing it:
never NULL (the C `assert`), never an out-of-bounds read -/
theorem exctab_search_correct (tab : Array ExcEntry) (count ip : Nat)
    (hwf : ExcWF tab count = true) (hip : ip < 4294967295) :
    ∃ i e1 e2, i < count ∧ tab[i]? = some e1 ∧ tab[i + 1]? = some e2 ∧
      e1.block ≤ ip ∧ ip < e2.block ∧ excHandler tab count ip = some e1.handler :=
  excHandler_complete tab count ip hwf hip

/-- the block containing an address is unique, so "the right handler" is well defined -/
theorem exctab_block_unique (tab : Array ExcEntry) (count ip i j : Nat)
    (hwf : ExcWF tab count = true) (a1 a2 b1 b2 : ExcEntry)
    (hi : i < count) (hj : j < count)
    (ha1 : tab[i]? = some a1) (ha2 : tab[i + 1]? = some a2)
    (hb1 : tab[j]? = some b1) (hb2 : tab[j + 1]? = some b2)
    (hai : a1.block ≤ ip ∧ ip < a2.block) (hbj : b1.block ≤ ip ∧ ip < b2.block) : i = j :=
  excSearch_unique tab count ip i j hwf a1 a2 b1 b2 hi hj ha1 ha2 hb1 hb2 hai hbj

/-- whatever the table, a found entry really contains the address -/
theorem exctab_search_sound (tab : Array ExcEntry) (count ip i : Nat)
    (h : excSearch tab count ip = some (some i)) :
    i < count ∧ ∃ e1 e2, tab[i]? = some e1 ∧ tab[i + 1]? = some e2 ∧ e1.block ≤ ip ∧ ip < e2.block :=
  excSearch_sound tab count ip i h

/-- the binary search terminates (well-founded definition) and never reads outside
`tab[0..count]`, for every table and address -/
theorem exctab_search_in_bounds (tab : Array ExcEntry) (count ip : Nat)
    (hsz : tab.size = count + 1) : excSearch tab count ip ≠ none :=
  excSearch_in_bounds tab count ip hsz

/-- the excluded point: the sentinel address itself is in no block (the C `assert` would fire);
the VM looks up `ip - 1`, so this needs a fault at `ip = 0`, which cannot happen
(ip was incremented before the handler ran) -/
theorem exctab_sentinel_not_found (tab : Array ExcEntry) (count : Nat) (hwf : ExcWF tab count = true) :
    excSearch tab count 4294967295 = some none :=
  excSearch_sentinel_null tab count hwf

/-! ## Part 2: unwinding on the VM model (`NeverModel/Model/Vm.lean`, tied by lockstep traces)

A fault sets `running = EXCEPTION`; `step` then continues at `handler(ip - 1)` (Part 1).
Every handler entry the emitter produces is `CLEAR_STACK n` (a catch clause), `RETHROW` (no clause
matched in this function) or `UNHANDLED_EXCEPTION` (entry stub).  The theorems below are the two
frame facts the delivery argument needs, for every machine state:
* `CLEAR_STACK n` puts the machine back into the function's own frame with exactly its `n`
  parameters on the stack, discarding whatever had been pushed or half-built above;
* `RETHROW` pops exactly one frame — complete or only MARKed — restoring the registers that MARK
  saved and continuing (as an exception) at that MARK's return address, i.e. in the frame's
  creator; `pp` is preserved by MARK and set to the callee's frame by CALL, so inside an
  activation `pp` always designates that activation's frame, at any depth of partial frames. -/

open Never.Vm in
/-- a catch clause starts in the function's own frame: fp = pp, sp = pp + nparams; locals and any
partially built call frames above are gone, the parameters below are untouched -/
theorem clear_stack_resets_frame (vm : Vm) (n : Nat) :
    (clearStackP vm n).fp = vm.pp ∧ (clearStackP vm n).sp = vm.pp + n ∧ (clearStackP vm n).pp = vm.pp ∧
    (clearStackP vm n).running = 1 ∧ (clearStackP vm n).stack = vm.stack ∧ (clearStackP vm n).gp = vm.gp ∧
    (clearStackP vm n).gc = vm.gc := by
  simp [clearStackP]

open Never.Vm in
/-- MARK saves pp and does not change it; CALL makes pp the new frame -/
theorem pp_discipline (vm : Vm) (retAddr env fip : Nat) (hs : StackOk vm) (h0 : -1 ≤ vm.sp)
    (h1 : vm.sp + 5 < vm.stackSize) (hf : fip ≠ 0) :
    ∃ vm1, markP vm retAddr = .ok vm1 ∧ vm1.pp = vm.pp ∧ slot vm1 (vm.sp + 1) = .stk vm.pp ∧
      (callP vm1 env fip).pp = vm1.fp := by
  obtain ⟨vm1, e, p⟩ := markP_spec vm retAddr hs h0 h1
  have hfz : (fip == 0) = false := by simpa using hf
  exact ⟨vm1, e, p.pp, p.w1, by simp [callP, hfz]⟩

open Never.Vm in
/-- RETHROW (= RET, then EXCEPTION) pops exactly the frame `fp` designates and restores what its
MARK saved: the fault is re-raised in the creator of that frame, at the MARK's return address -/
theorem rethrow_pops_one_frame (vm0 vm1 vm2 : Vm) (retAddr : Nat)
    (hs0 : StackOk vm0) (h0 : -1 ≤ vm0.sp) (h1 : vm0.sp + 5 < vm0.stackSize)
    (hm : markP vm0 retAddr = .ok vm1)
    (hs2 : StackOk vm2) (hsz : vm2.stackSize = vm0.stackSize) (hfp : vm2.fp = vm0.sp + 5)
    (hframe : ∀ k : Int, 1 ≤ k → k ≤ 5 → slot vm2 (vm0.sp + k) = slot vm1 (vm0.sp + k))
    (hsp0 : 0 ≤ vm2.sp) (hsp : vm2.sp < vm2.stackSize) :
    ∃ vm3, retP vm2 = .ok vm3 ∧ vm3.fp = vm0.fp ∧ vm3.pp = vm0.pp ∧ vm3.gp = vm0.gp ∧ vm3.ip = retAddr ∧
      vm3.sp = vm0.sp + 1 := by
  obtain ⟨vm3, hr, hsp3, hfp3, hpp3, hgp3, hip3, _⟩ := markP_retP vm0 vm1 vm2 retAddr hs0 h0 h1 hm hs2 hsz hfp hframe hsp0 hsp
  exact ⟨vm3, hr, hfp3, hpp3, hgp3, hip3, hsp3⟩

def exTab : Array ExcEntry := #[⟨0, 100⟩, ⟨10, 200⟩, ⟨25, 300⟩, ⟨4294967295, 4294967295⟩]
example : ExcWF exTab 3 = true ∧ (12 : Nat) < 4294967295 := by decide
example : excHandler exTab 3 12 = some 200 := by decide +kernel

open Never.Vm Never.Ver in
/-- **Delivery, at the machine level.** From a running machine whose exception table is well-formed, one `step` on any
instruction of the effect table (every arithmetic, indexing, allocation, conversion, build-in … instruction; all that can
fault) ends in exactly one of three ways: the instruction completed (next address), the machine stopped in VM_ERROR, or
an exception was raised and the machine is **running again at the handler of THE block of the table that contains the
faulting address** — with the frame registers `fp`, `pp` untouched, so the `CLEAR_STACK` / `RETHROW` that every handler
begins with (theorems above) acts on the faulting function's own frame. -/
theorem fault_enters_the_block_handler (md : Module) (orc : Oracle) (vm vm' : Vm) (ins : Instr) (p q : Nat)
    (hwf : ExcWF md.exctab md.excCount = true) (hsmall : vm.ip < 4294967295)
    (hf : md.code[vm.ip]? = some ins) (hrun : vm.running = 1) (he : simpleEffect ins = some (p, q)) (hj : ins.op ≠ .JUMPZ)
    (h : (step md orc).run vm = .ok ((), vm')) :
    vm'.fp = vm.fp ∧ vm'.pp = vm.pp ∧
    ((vm'.running = 1 ∧ vm'.ip = vm.ip + 1) ∨ vm'.running = 3 ∨
     (vm'.running = 1 ∧ ∃ i e1 e2, i < md.excCount ∧ md.exctab[i]? = some e1 ∧ md.exctab[i + 1]? = some e2 ∧
        e1.block ≤ vm.ip ∧ vm.ip < e2.block ∧ vm'.ip = e1.handler)) := by
  obtain ⟨a1, a2, _, a4⟩ := step_table md orc vm vm' ins p q hf hrun he hj h
  refine ⟨a1, a2, ?_⟩
  rcases a4 with ⟨r, hip, _⟩ | ⟨r, hh⟩ | r
  · left; exact ⟨r, hip⟩
  · right; right
    obtain ⟨i, e1, e2, hi, t1, t2, b1, b2, hh'⟩ := exctab_search_correct md.exctab md.excCount vm.ip hwf hsmall
    rw [hh'] at hh
    exact ⟨r, i, e1, e2, hi, t1, t2, b1, b2, (Option.some.inj hh).symm⟩
  · right; left; exact r

end Never.C03
