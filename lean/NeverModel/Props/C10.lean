import NeverModel.Lemmas.NumVm
import NeverModel.Model.NumKnown
/-!
# C10 — compile-time constant reduction agrees with run-time evaluation

Both sides are tables REGENERATED FROM /repo's C SOURCE on every run (gen/numtab.py):
`T.foldRows` = one row per `if (left->type == EXPR_x && right->type == EXPR_y)` clause of the operator
folders of front/constred.c (and of the enumerator-value folder front/enumred.c) and of
expr_conv_constred; the run-time side = typing rule of the operator (front/typecheck.c) → opcode chosen by
the emitter (front/emit.c) → handler of the VM (back/vmexec.c), all in `T`.
Operand values are universally quantified; float results are compared as the same Float32 / Float
term (bit-for-bit), which the kernel can do although the float operations themselves are opaque.

`_partial` = the statement for every row except the excused ones (the defects of the pinned tree, each with
its own `_counterexample` below and a replay on the real compiler in checks/c10.py).
Core library only.  No sorry / admit / axiom / native_decide / bv_decide / unsafe.
-/
namespace Never.C10
open Never.Num Never.CExpr Never.NumTables Never.NumKnown

/-! ## the clauses the pinned tree gets wrong (by source operator and literal kinds) -/

def cmpOrMod (op : SrcOp) : Bool :=
  op == .lt || op == .gt || op == .lte || op == .gte || op == .eq || op == .neq || op == .mod

/-- 1. `long * long` is folded on the `int_value` members (expr_mul_constred);
    2. `bool != bool` on variables runs OP_EQ_INT (expr_neq_emit);
    3. a comparison or `%` with an ITEM-enumerator operand is typed but has no opcode in the emitter, so the
       variable form does not compile at all (expr_<op>_emit: EMIT_FAIL / assert(0)) -/
def excused (r : FoldRow) : Bool :=
  -- (1) long*long on int_value and (2) bool != selecting OP_EQ_INT were repaired by the `fix:` commits
  -- 6677f2b and 9db5579: those rows are no longer excused (the statement below now covers them)
  (cmpOrMod r.op && (r.kindA == .enumtype || r.kindB == some .enumtype) &&
    !(r.op == .eq && r.kindA == .enumtype && r.kindB == some .enumtype))

/-- every other clause is, syntactically, the same guarded typed C expression over the same operand reads as
    the handler the emitter selects for that operator at those operand types (no conversion in between) -/
theorem rows_agree_partial : ∀ r ∈ T.foldRows, excused r = false → rowAgrees T r = true := by
  decide +kernel

theorem runGE_not_tag (ra rb : NTy → CRes) (g : Option (CExpr × Nat)) (e : CExpr) (out : NTy) :
    runGE ra rb g e out ≠ .tag := by
  unfold runGE
  cases g with
  | none => simp only []; split <;> (try split) <;> simp
  | some x =>
    obtain ⟨gx, n⟩ := x
    simp only []
    split
    · split
      · split <;> (try split) <;> simp
      · simp
    · simp
    · simp

theorem runGE_exc (ra rb : NTy → CRes) (g : Option (CExpr × Nat)) (e : CExpr) (out : NTy) (n : Nat)
    (h : runGE ra rb g e out = .exc n) : ∃ x, g = some (x, n) := by
  unfold runGE at h
  cases g with
  | none => simp only [] at h; split at h <;> (try split at h) <;> simp at h
  | some x =>
    obtain ⟨gx, m⟩ := x
    simp only [] at h
    split at h
    · split at h
      · split at h <;> (try split at h) <;> simp at h
      · simp at h; exact ⟨gx, by rw [h]⟩
    · simp at h
    · simp at h

/-- reading an outcome of the VM back from what the folder made of it -/
theorem ofNRes_inv (k : LitKind) (res : NRes) (hexc : ∀ n, res = .exc n → n = 1) (htag : res ≠ .tag) :
    (∀ k' v, FoldRes.ofNRes k res = .folded k' v → k' = k ∧ res = .ok v) ∧
    (FoldRes.ofNRes k res = .divzero → res = .exc 1) ∧
    (∀ w, FoldRes.ofNRes k res = .crash w → res = .crash w) := by
  cases res with
  | tag => exact absurd rfl htag
  | exc n => simp [FoldRes.ofNRes, hexc n rfl]
  | _ => simp [FoldRes.ofNRes, eq_comm]

/-- **fold_eq_run** (all rows but the excused ones, all operand values):
    if the compiler folds `lit op lit` to `v`, running the operator on variables holding the same values yields
    exactly `v` (same bits); if it rejects the expression as a constant division by zero, the VM raises
    division_by_zero (exception 1); and the folder leaves defined C behaviour only where the VM's own handler does -/
theorem fold_eq_run_partial :
    ∀ r ∈ T.foldRows, excused r = false → ∀ a b : NVal, r.wellKinded a b →
      (∀ k v, r.eval a b = .folded k v → k = r.resKind ∧ T.runRow r a b = .ok v) ∧
      (r.eval a b = .divzero → T.runRow r a b = .exc 1) ∧
      (∀ w, r.eval a b = .crash w → T.runRow r a b = .crash w) := by
  intro r hr hex a b wk
  have hag := rows_agree_partial r hr hex
  unfold rowAgrees at hag
  cases hc : T.counterpart r with
  | none => rw [hc] at hag; cases hag
  | some c =>
    rw [hc] at hag
    obtain ⟨hfold, hrun⟩ := fold_agrees r c hag a b wk
    have hrow : T.runRow r a b = c.eval a b := by
      unfold Tables.runRow
      rw [hc]
    rw [hrow, hfold, hrun]
    -- the handler runs the clause's guarded expression: never `.tag`, and an exception is the guard's, number 1
    refine ofNRes_inv _ _ (fun n hn => ?_) (runGE_not_tag _ _ _ _ _)
    obtain ⟨x, hx⟩ := runGE_exc _ _ _ _ _ n hn
    cases hg : r.guard with
    | none => rw [hg] at hx; cases hx
    | some g => rw [hg] at hx; cases hx; rfl
/-! ## fold_total: the reducer itself is outside defined C behaviour only on the inputs below -/

/-- the operand values on which a VM handler (hence, by the theorem above, the folding clause) traps or is
    undefined: `MIN / -1`, `MIN % -1`, and shift counts outside [0,width) -/
def UBCase : Sem → NVal → NVal → Prop
  | .bin .int op, .int a, .int b =>
    ((op = .div ∨ op = .mod) ∧ a = intMin32 ∧ b = -1) ∨ ((op = .shl ∨ op = .shr) ∧ (b.toInt < 0 ∨ b.toInt ≥ 32))
  | .bin .long op, .long a, .long b =>
    ((op = .div ∨ op = .mod) ∧ a = intMin64 ∧ b = -1) ∨ ((op = .shl ∨ op = .shr) ∧ (b.toInt < 0 ∨ b.toInt ≥ 64))
  | _, _, _ => False

/-- Never.Num's handlers leave defined behaviour exactly on `UBCase` -/
theorem sem_crash_cases (sem : Sem) (a b : NVal) (w : String) (h : sem.eval a b = .crash w) : UBCase sem a b := by
  cases sem with
  | bin ty op =>
    -- `UBCase` on a binary handler is `TrapCase`
    have ht := bin_trap ty op a b w h
    cases ty <;> cases a <;> cases b <;> exact ht
  | un ty op => exact absurd h ((un_conv_never_trap a w).1 ty op)
  | conv s d => exact absurd h ((un_conv_never_trap a w).2 s d)

/-- the pseudo handlers of `&&`, `||`, `( )` never trap -/
theorem pseudo_total (c : Core) (hc : c = andCore ∨ c = orCore ∨ ∃ t, c = supCore t) (a b : NVal) (w : String) :
    c.eval a b ≠ .crash w := by
  intro h
  rcases hc with rfl | rfl | ⟨t, rfl⟩
  · cases a <;> cases b <;> cases h
  · cases a <;> cases b <;> cases h
  · cases t <;> cases a <;> cases h

theorem handler_mem (T : Tables) {opc : Nat} {hrow : VmRow} (h : T.handler opc = some hrow) : hrow ∈ T.vmRows := by
  unfold Tables.handler at h
  split at h
  · exact List.mem_of_getElem? h
  · cases h

/-- what runs for a folding clause is a pseudo handler or the core of a row of the handler table -/
theorem counterpart_cases (T : Tables) (r : FoldRow) (c : Core) (h : T.counterpart r = some c) :
    (c = andCore ∨ c = orCore ∨ ∃ t, c = supCore t) ∨ ∃ hrow ∈ T.vmRows, c = hrow.core := by
  unfold Tables.counterpart at h
  split at h
  · split at h
    · obtain ⟨hrow, hh, rfl⟩ := Option.map_eq_some_iff.1 h
      unfold Tables.convHandler at hh
      split at hh
      · exact .inr ⟨hrow, handler_mem T hh, rfl⟩
      · cases hh
    · cases h
  · cases h
    exact .inl (.inr (.inr ⟨_, rfl⟩))
  · split at h
    · cases h
    · split at h
      · cases h
      · unfold Tables.opCore at h
        split at h
        · cases h
          exact .inl (.inl rfl)
        · cases h
          exact .inl (.inr (.inl rfl))
        · split at h
          · cases h
          · obtain ⟨hrow, hh, rfl⟩ := Option.map_eq_some_iff.1 h
            exact .inr ⟨hrow, handler_mem T hh, rfl⟩

/-- **fold_total** (partial): for every non-excused clause and all operand values, the reducer's own C code traps
    or is undefined ONLY on `UBCase` inputs: `MIN / -1`, `MIN % -1`, out-of-range shift counts -/
theorem fold_total_partial :
    ∀ r ∈ T.foldRows, excused r = false → ∀ a b : NVal, r.wellKinded a b → ∀ w, r.eval a b = .crash w →
      ∃ sem, UBCase sem a b := by
  intro r hr hex a b wk w hcrash
  have hrun := (fold_eq_run_partial r hr hex a b wk).2.2 w hcrash
  unfold Tables.runRow at hrun
  cases hc : T.counterpart r with
  | none =>
    -- `rows_agree_partial` says there is a counterpart
    have hag := rows_agree_partial r hr hex
    rw [rowAgrees, hc] at hag
    cases hag
  | some c =>
    rw [hc] at hrun
    rcases counterpart_cases T r c hc with hp | ⟨hrow, hmem, rfl⟩
    · exact absurd hrun (pseudo_total c hp a b w)
    · have hrow_eval : hrow.eval a b = .crash w := hrun
      rw [NumVm.vm_handlers_eq_model hrow hmem] at hrow_eval
      exact ⟨hrow.sem, sem_crash_cases _ _ _ _ hrow_eval⟩

/-- in particular the reducer is total on float and double operands (and on every unary clause) -/
theorem fold_total_float :
    ∀ r ∈ T.foldRows, excused r = false → ∀ a b : NVal, r.wellKinded a b →
      a.ty ≠ .int → a.ty ≠ .long → ∀ w, r.eval a b ≠ .crash w := by
  intro r hr hex a b wk hi hl w hcrash
  obtain ⟨sem, hub⟩ := fold_total_partial r hr hex a b wk w hcrash
  cases sem with
  | bin ty op => cases ty <;> cases a <;> cases b <;> simp [UBCase, NVal.ty] at hub hi hl
  | un ty op => simp [UBCase] at hub
  | conv s d => simp [UBCase] at hub

/-! ## non-vacuity -/

example : (T.foldRows.filter fun r => !excused r).length ≥ 110 := by decide +kernel
example : ∃ r ∈ T.foldRows, r.op = .add ∧ r.kindA = .float ∧ excused r = false ∧
    r.expr = .bin .add .float (.opA .float) (.opB .float) := by decide +kernel
example : ∃ r ∈ T.foldRows, r.op = .div ∧ r.kindA = .int ∧ r.kindB = some .int ∧
    r.eval (.int 7) (.int 0) = .divzero ∧ T.runRow r (.int 7) (.int 0) = .exc 1 ∧
    r.eval (.int (-7)) (.int 2) = .folded .int (.int (-3)) ∧ T.runRow r (.int (-7)) (.int 2) = .ok (.int (-3)) := by
  decide +kernel

/-! ## the defects of the pinned tree: literal copies of the pinned clauses, with concrete witnesses.
    Whether a pinned clause is still in the regenerated table is decided on every run (`nmdrv num known`),
    and each witness is replayed on the real compiler by checks/c10.py. -/

/-- `fold_total` fails: `INT_MIN / -1` written with literals makes the COMPILER execute a trapping idiv -/
theorem fold_total_counterexample :
    pinnedDivInt.wellKinded (.int 0x80000000#32) (.int 0xffffffff#32) ∧
    pinnedDivInt.eval (.int 0x80000000#32) (.int 0xffffffff#32) = .crash "SIGFPE: INT_MIN / -1" := by
  decide +kernel

/-- `fold_eq_run` fails: 4294967296L * 2L folds to 0, the VM computes 8589934592 -/
theorem fold_eq_run_counterexample :
    pinnedMulLong.wellKinded (.long 0x100000000#64) (.long 2#64) ∧
    pinnedMulLong.eval (.long 0x100000000#64) (.long 2#64) = .folded .long (.long 0#64) ∧
    Num.bin .long .mul (.long 0x100000000#64) (.long 2#64) = .ok (.long 0x200000000#64) := by
  decide +kernel

/-- `true != false` folds to true; on variables the emitter's OP_EQ_INT answers false -/
theorem fold_eq_run_counterexample_neq_bool :
    pinnedNeqBool.eval (.int 1) (.int 0) = .folded .bool (.int 1) ∧
    Num.bin .int .eq (.int 1) (.int 0) = .ok (.int 0) := by
  decide +kernel

/-- `E::a < 3` folds, `var e = E::a; e < 3` has no opcode: any rule for (lt, enumtype, int) without opcode makes
    the run-time side fail for every operand value -/
theorem fold_eq_run_counterexample_enum_cmp (T' : Tables) (rule : Rule)
    (h : T'.rule .lt .enumtype (some .int) = some rule) (hc : rule.convL = none ∧ rule.convR = none)
    (ho : rule.opcode = none) (a b : NVal) : T'.runSrc .lt .enumtype (some .int) a b = noOpcode := by
  simp [Tables.runSrc, h, hc.1, hc.2, Tables.applyConv, Tables.opCore, ho]

end Never.C10
