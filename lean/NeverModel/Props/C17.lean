import NeverModel.Lemmas.FfiExec
/-!
# C17 — foreign calls pass and return every value intact

Model: `NeverModel/Model/Ffi.lean` (mirror of `back/vmffi.c` and of the descriptor emitter in
`front/emit.c`).  Tie: correspondence — `harness/h_ffi.c` includes `back/vmffi.c` textually and
runs its static walk functions on the same descriptors/values as `nmdrv ffi`; the end-to-end
generator (`checks/ffi_corr.py`) compiles C callees and Never programs and compares received /
returned values and `offsetof`/`sizeof`.  Property theorems only; proofs in `Lemmas/Ffi*.lean`.

Outside every theorem here: libffi (sizes of aggregates are *taken* to be the C ones, see the
model header; register/memory classification; ownership of argument buffers) — observed by the
harness only.
-/
namespace Never.C17
open Never Never.Ffi

/-- **Layout.**  For EVERY nested record type whose size fits `unsigned int`, the offset
arithmetic of `vm_execute_func_ffi_record_value` (32-bit running offset, bit-mask align,
re-basing of nested records) stores every scalar leaf at exactly the `offsetof` the C ABI gives
it (`r.trace = cLeaves …`), never outside the `sizeof` bytes that were allocated (the walk
returns `some`), and consumes exactly the record's descriptor; `vm_execute_func_ffi_record_new`
loads from the same offsets and leaves `*offset` at `sizeof`. -/
theorem layout_matches_sysv (fs : FTys) (vs : FVals) (rest : List Desc)
    (hty : HasTys vs fs = true) (hnf : NilFreeL vs = true) (hfit : cSize (.record fs) < 2 ^ 32) :
    ∃ r r', valueLoop fs fs.length vs ((emitList fs).1 ++ rest) (Buf.zero (cSize (.record fs))) 0#32 = some r ∧
      r.trace = cLeaves (.record fs) 0 ∧ r.ret = false ∧ r.code = rest ∧
      r.buf.size = cSize (.record fs) ∧
      recordNew fs fs.length ((emitList fs).1 ++ rest) r.buf 0#32 = some r' ∧
      r'.trace = cLeaves (.record fs) 0 ∧ r'.off.toNat = cSize (.record fs) ∧ r'.code = rest := by
  obtain ⟨r, r', h1, h2, h3, h4, h5, h6, _, h8, h9, h10⟩ := pack_unpack_top fs vs rest hty hnf hfit
  exact ⟨r, r', h1, h2, h3, h4, h5, h6, h8, h9, h10⟩

/-- the same at any position inside an enclosing struct: a member of type `t` of a struct based
at `base` (a multiple of `t`'s alignment), the previous member ending at relative offset `rel`
(the walk's absolute `*offset` being `base + rel`), is stored at
`base + roundUp rel (alignof t)` — the C member offset — with all its leaves at their C offsets -/
theorem layout_matches_sysv_member (t : FTy) (d : Desc) (code rest : List Desc)
    (hemit : (emitParam t).1 ++ rest = d :: code) (v : FVal) (hty : HasTy v t = true)
    (hnf : NilFree v = true) (base rel : Nat) (buf : Buf) (off : BitVec 32)
    (hoff : off.toNat = base + rel) (hal : cAlign t ∣ base)
    (hb : base + roundUp rel (cAlign t) + cSize t ≤ buf.size) (hs : buf.size < 2 ^ 32) :
    ∃ r, valueField t d v code buf off = some r ∧
      r.trace = cLeaves t (base + roundUp rel (cAlign t)) ∧
      r.off.toNat = base + roundUp rel (cAlign t) + cSize t ∧ r.code = rest := by
  obtain ⟨r, hr, s⟩ := valueField_spec t d code rest hemit v hty base rel buf off hoff hal hb hs
  exact ⟨r, hr, s.trace hnf, s.off, s.code⟩

/-- **Round trip.**  Unpacking (`record_new`) the buffer that packing (`record_value`) produced
returns the record, field by field, for every well-typed nil-free record value of every nested
record type -/
theorem marshal_roundtrip (fs : FTys) (vs : FVals) (rest : List Desc)
    (hty : HasTys vs fs = true) (hnf : NilFreeL vs = true) (hfit : cSize (.record fs) < 2 ^ 32) :
    ∃ r r', valueLoop fs fs.length vs ((emitList fs).1 ++ rest) (Buf.zero (cSize (.record fs))) 0#32 = some r ∧
      recordNew fs fs.length ((emitList fs).1 ++ rest) r.buf 0#32 = some r' ∧
      r'.val = .record vs := by
  obtain ⟨r, r', h1, _, _, _, _, h6, h7, _⟩ := pack_unpack_top fs vs rest hty hnf hfit
  exact ⟨r, r', h1, h6, h7⟩

/-- `total_count` written by the emitter is the number of descriptor codes of the record, so the
`ip += total_count - 1` taken for a nil record lands exactly behind it -/
theorem descriptor_total_count (fs : FTys) (rest : List Desc) :
    ∃ total, (emitParam (.record fs)).1 = .record fs.length total :: (emitList fs).1 ∧
      ((emitList fs).1 ++ rest).drop (total - 1) = rest :=
  ⟨1 + (emitList fs).1.length, emitParam_record fs, by simp⟩

/-- **Descriptor walk.**  For a parameter list of ANY arity and any return type, the descriptor
the emitter writes after `FUNC_FFI` is read back by the type phase as exactly the declared types
in declared order, ending on the `RET` that follows; and, for operands of the declared types
(nil records and nil strings included — the skip by `total_count`), the value phase consumes
exactly the parameter part, stops on the return descriptor, and hands `ffi_call` one value per
parameter, in declared order, each struct buffer read back intact by the C layout (`ArgsOk`);
with no nil operand the call is made with these arguments. -/
theorem descriptor_walk (ps : FTys) (r : RetTy) (stack : FVals) (tail : List Desc)
    (hwf : WfTys ps = true) (hwr : WfRet r = true) (hty : HasTys stack ps = true) (hfit : FitsL ps) :
    parseSig ps.length (emitSig ps r ++ tail) = some (ps, r, .other :: tail) ∧
    ∃ pr, prepValues ps ps.length stack (emitSig ps r ++ tail) false = some pr ∧
      pr.code = emitRet r ++ .other :: tail ∧ ArgsOk ps stack pr.args (emitRet r ++ .other :: tail) ∧
      (NilFreeL stack = true →
        ffiExec ps.length (emitSig ps r ++ tail) stack true true
          = .call pr.args r (emitRet r ++ .other :: tail)) := by
  obtain ⟨pr, hpr, hc, ha, hx⟩ := ffiExec_spec ps r stack tail true true hwf hwr hty hfit
  exact ⟨parseSig_emit ps r tail, pr, hpr, hc, ha, fun hnf => by rw [hx, prepFinal_nilfree stack hnf]; rfl⟩

/-- the result phase: a returned struct laid out by the C compiler (modelled as the packing of
`vs`) comes back as the declared record value, and the walk ends on the `RET` -/
theorem result_struct_intact (fs : FTys) (vs : FVals) (tail : List Desc)
    (hty : HasTys vs fs = true) (hnf : NilFreeL vs = true) (hfit : cSize (.record fs) < 2 ^ 32) :
    ∃ r, valueLoop fs fs.length vs ((emitList fs).1 ++ .other :: tail) (Buf.zero (cSize (.record fs))) 0#32 = some r ∧
      ffiResult (emitRet (.ty (.record fs)) ++ .other :: tail) r.buf = some (.record vs, .other :: tail) := by
  obtain ⟨r, r', hr, _, _, _, _, hr', hv, _, _, hc⟩ := pack_unpack_top fs vs (.other :: tail) hty hnf hfit
  refine ⟨r, hr, ?_⟩
  have hps := parseSig_emit .nil (.ty (.record fs)) tail
  simp only [emitSig, emitList, List.nil_append, FTys.length, emitRet] at hps
  simp only [emitRet]
  rw [emitParam_record] at hps ⊢
  simp only [List.cons_append, List.append_assoc, List.nil_append] at hps ⊢
  simp only [ffiResult, hps, hr', hv, hc]

/-! ### failure paths (as far as they are logic of `vm_execute_func_ffi`) -/

/-- a missing library (`dlcache_get_handle` = NULL) or a missing symbol (`dlsym` = NULL) never
reaches `ffi_call`, whatever the descriptor and operands -/
theorem ffi_failure_paths_missing (count : Nat) (code : List Desc) (stack : FVals) (libOk symOk : Bool)
    (h : libOk = false ∨ symOk = false) :
    ∀ args r rest, ffiExec count code stack libOk symOk ≠ .call args r rest := by
  intro args r rest
  unfold ffiExec
  split
  · simp
  · split
    · simp
    · split
      · simp
      · split
        · simp
        · rcases h with h | h <;> subst h <;> simp
          split <;> simp

/-- exact characterisation of the nil-argument path on emitted descriptors: `ffi_fail` is raised
before the call iff the flag `prep_vals`, as the C code computes it (`prepFinal`, `|=`), ends up set -/
theorem ffi_failure_paths_nil_exact (ps : FTys) (r : RetTy) (stack : FVals) (tail : List Desc)
    (hwf : WfTys ps = true) (hwr : WfRet r = true) (hty : HasTys stack ps = true) (hfit : FitsL ps) :
    (prepFinal false stack = true →
      ffiExec ps.length (emitSig ps r ++ tail) stack true true = .ffiFail .values) ∧
    (prepFinal false stack = false →
      ∃ args, ffiExec ps.length (emitSig ps r ++ tail) stack true true
        = .call args r (emitRet r ++ .other :: tail)) := by
  obtain ⟨pr, _, _, _, hx⟩ := ffiExec_spec ps r stack tail true true hwf hwr hty hfit
  constructor
  · intro h; rw [hx]; simp [h]
  · intro h; exact ⟨pr.args, by rw [hx]; simp [h]⟩

/-- **Nil operands, full strength** (holds since the repair 7f404f9, `prep_vals |= …`): on the
descriptor emitted for `(ps) -> r`, with operands of the declared types, if ANY operand — at top
level or nested inside a record operand (`NilFreeL stack = false`) — is a nil string or a nil
record, `ffi_fail` is raised at the values stage and `ffi_call` is not reached; otherwise the call
is made, with one intact argument per parameter in declared order -/
theorem ffi_failure_paths (ps : FTys) (r : RetTy) (stack : FVals) (tail : List Desc)
    (hwf : WfTys ps = true) (hwr : WfRet r = true) (hty : HasTys stack ps = true) (hfit : FitsL ps) :
    (NilFreeL stack = false →
      ffiExec ps.length (emitSig ps r ++ tail) stack true true = .ffiFail .values) ∧
    (NilFreeL stack = true →
      ∃ args, ArgsOk ps stack args (emitRet r ++ .other :: tail) ∧
        ffiExec ps.length (emitSig ps r ++ tail) stack true true
          = .call args r (emitRet r ++ .other :: tail)) :=
  exec_full ps r stack tail hwf hwr hty hfit

/-- the same, spelled by position: an operand `v` holding a nil anywhere in the operand list,
whatever precedes and whatever follows it (non-nil records included), stops the call -/
theorem ffi_failure_paths_any_position (ps : FTys) (r : RetTy) (pre post : FVals) (v : FVal)
    (tail : List Desc) (hwf : WfTys ps = true) (hwr : WfRet r = true)
    (hty : HasTys (pre.append (.cons v post)) ps = true) (hfit : FitsL ps)
    (hnil : NilFree v = false) :
    ffiExec ps.length (emitSig ps r ++ tail) (pre.append (.cons v post)) true true = .ffiFail .values :=
  (exec_full ps r _ tail hwf hwr hty hfit).1 (nilFreeL_append_cons pre v post hnil)

/-- the outcome "reached `ffi_call` with `param_values[0]` still NULL" -/
def callsWithNull : Outcome → Bool
  | .call (.unset :: _) _ _ => true
  | _ => false

def cexPs : FTys := .cons (.prim .string) (.cons (.record (.cons (.prim .int) (.cons (.prim .int) .nil))) .nil)
def cexStack : FVals := .cons (.string none) (.cons (.record (.cons (.int 4) (.cons (.int 5) .nil))) .nil)

/-- **HISTORICAL counterexample** (pinned commit 032f4cb, before 7f404f9; model `ffiExecPinned`
with `prep_vals = …`): `extern f(s : string, r : {int,int}) -> int` called with a nil string and a
non-nil record reached `ffi_call` with a NULL argument pointer.  The check replays this input on
the current tree and reports a VIOLATION if the behaviour returns. -/
theorem ffi_failure_paths_pinned_counterexample :
    HasTys cexStack cexPs = true ∧ NilFreeL cexStack = false ∧
    callsWithNull (ffiExecPinned cexPs.length (emitSig cexPs (.ty (.prim .int))) cexStack true true) = true ∧
    ffiExec cexPs.length (emitSig cexPs (.ty (.prim .int))) cexStack true true = .ffiFail .values := by
  refine ⟨by decide +kernel, by decide +kernel, by decide +kernel, ?_⟩
  have h := (exec_full cexPs (.ty (.prim .int)) cexStack [] (by decide +kernel) (by decide +kernel)
    (by decide +kernel)
    (by simp only [cexPs, FitsL]; exact ⟨by decide +kernel, by decide +kernel, trivial⟩)).1 (by decide +kernel)
  simpa using h

/-! ### non-vacuity -/

def exTy : FTys :=   -- struct { char c; struct { double d; char e; } in; int i; }
  .cons (.prim .char) (.cons (.record (.cons (.prim .double) (.cons (.prim .char) .nil))) (.cons (.prim .int) .nil))
def exVal : FVals :=
  .cons (.char 65) (.cons (.record (.cons (.double 4607182418800017408) (.cons (.char 66) .nil))) (.cons (.int 7) .nil))

example : HasTys exVal exTy = true ∧ NilFreeL exVal = true ∧ cSize (.record exTy) < 2 ^ 32 := by decide +kernel
example : cLeaves (.record exTy) 0 = [(.char, 0), (.double, 8), (.char, 16), (.int, 24)] ∧
    cSize (.record exTy) = 32 := by decide +kernel
example : WfTys cexPs = true ∧ WfRet (.ty (.prim .int)) = true ∧ FitsL cexPs := by
  refine ⟨by decide +kernel, by decide +kernel, ?_⟩
  simp only [cexPs, FitsL]
  refine ⟨by decide +kernel, by decide +kernel, trivial⟩
/-- `ffi_failure_paths_any_position` is not vacuous: nil string first, non-nil record after it -/
example : ffiExec 2 (emitSig cexPs .void) (FVals.append .nil (.cons (.string none)
      (.cons (.record (.cons (.int 4) (.cons (.int 5) .nil))) .nil))) true true = .ffiFail .values := by
  have h := ffi_failure_paths_any_position cexPs .void .nil
    (.cons (.record (.cons (.int 4) (.cons (.int 5) .nil))) .nil) (.string none) []
    (by decide +kernel) (by decide +kernel) (by decide +kernel)
    (by simp only [cexPs, FitsL]; exact ⟨by decide +kernel, by decide +kernel, trivial⟩)
    (by decide +kernel)
  simpa [FTys.length, cexPs] using h

end Never.C17
