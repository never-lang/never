import NeverModel.Model.Verify
import NeverModel.Props.C03
import NeverModel.Lemmas.VmEffect
import NeverModel.Lemmas.VmEFSound
import NeverModel.Lemmas.VmIpSound
import NeverModel.Lemmas.VerCert
import NeverModel.Lemmas.VerLocal
import NeverModel.Lemmas.VerCalls
/-!
# C07 — emitted code is well-formed on every path, executed or not

`Ver.verify` (Model/Verify.lean) is the per-module certificate checker run on every module the real
compiler emits (checks/c07.py).  The theorems here connect a successful verification with executions of M-VM: the
(pops, pushes) pair the verifier uses is what the handler does to `sp`, for every opcode of its table
(`simple_effect_sound`); each instruction of a verified module steps from its recorded height to the recorded height of
its successor; and whole executions — calls, returns, exceptions — keep `sp = pp + nparams + h(ip)` and every frame
record intact (`verify_sound_partial`), relative to one condition the verifier cannot see: the function value at a CALL
has the arity of its call site (`callee_arity_suffices`).  checks/c07.py also compares `sp - pp - nparams` with `h(ip)`
before every executed instruction of every program it runs.
-/
namespace Never.C07
open Never Never.Vm Never.Ver

theorem verifyH_ok (md : Module) (s : Summary) (hm : HMap) (h : verifyH md = .ok (s, hm)) :
    verifyCore md = .ok (s, hm) ∧ flowOk md hm = true := by
  unfold verifyH at h
  split at h
  · cases h
  · split at h
    · cases h; exact ⟨‹_›, ‹_›⟩
    · cases h

/-- what `verifyCore` tests before it starts the dataflow: the module is not empty, its exception table is well-formed -/
theorem verify_core (md : Module) (s : Summary) (h : verify md = .ok s) : md.code.size ≠ 0 ∧ ExcWF md.exctab md.excCount = true := by
  unfold verify at h
  cases hv : verifyH md with
  | error e => rw [hv] at h; cases h
  | ok p =>
    have hc := (verifyH_ok md p.1 p.2 hv).1
    unfold verifyCore at hc
    simp only [bind, Except.bind] at hc
    split at hc
    · cases hc
    · split at hc
      · cases hc
      · rename_i hn hwf
        exact ⟨by simpa using hn, by simpa using hwf⟩

/-- a verified module has a well-formed exception table -/
theorem verified_table_wellformed (md : Module) (s : Summary) (h : verify md = .ok s) :
    ExcWF md.exctab md.excCount = true :=
  (verify_core md s h).2

/-- hence in a verified module every fault address (below the sentinel) has exactly one handler:
the `assert(res != NULL)` of `exception_tab_search` cannot fire and the lookup stays in bounds -/
theorem verified_every_fault_has_handler (md : Module) (s : Summary) (h : verify md = .ok s)
    (ip : Nat) (hip : ip < 4294967295) : (excHandler md.exctab md.excCount ip).isSome = true := by
  have hwf := verified_table_wellformed md s h
  obtain ⟨i, e1, e2, _, _, _, _, _, hh⟩ := C03.exctab_search_correct md.exctab md.excCount ip hwf hip
  simp [hh]

/-- a verified module is not empty -/
theorem verified_nonempty (md : Module) (s : Summary) (h : verify md = .ok s) : md.code.size ≠ 0 :=
  (verify_core md s h).1

/-- the opcodes of the three typed arithmetic families (binary, unary, conversion) -/
def isArith (op : Opc) : Bool := (binOpOf op).isSome || (unOpOf op).isSome || (convOf op).isSome

/-- an opcode that `exec` hands to a family handler popping `d = p − q` slots net has the effect `(p, q)` -/
theorem effect_of_family {md : Module} {ins : Instr} {orc : Oracle} {f : M Unit} {d : Int} (p q : Nat)
    (hx : ∀ vm, (exec md ins orc).run vm = f.run vm) (hf : PopsOrRaises f d) (hd : d = (p : Int) - (q : Int)) (vm vm' : Vm)
    (h : (exec md ins orc).run vm = .ok ((), vm')) :
    vm'.fp = vm.fp ∧ vm'.pp = vm.pp ∧ vm'.stackSize = vm.stackSize ∧
    (vm'.sp = vm.sp - (p : Int) + (q : Int) ∨ (vm'.sp = vm.sp ∧ vm'.running = 2)) := by
  rw [hx] at h
  obtain ⟨a, b, c, e⟩ := hf vm vm' h
  exact ⟨a, b, c, e.imp_left fun e => by omega⟩

/-- **Soundness of the verifier's stack-effect table on the arithmetic families.**  For every opcode of
the typed binary / unary / conversion families (`isArith`; counted below) the verifier's `simpleEffect`
is defined, and on *every* machine state on which the M-VM handler of that instruction completes, the
frame registers and the stack size are untouched and `sp` moves by exactly `pushes - pops`, or the
handler raised an exception (running = 2, `sp` unchanged: the exception path then resets the stack). -/
theorem simple_effect_sound_arith (md : Module) (ins : Instr) (orc : Oracle) (ha : isArith ins.op = true) :
    ∃ p q, simpleEffect ins = some (p, q) ∧
      ∀ vm vm', (exec md ins orc).run vm = .ok ((), vm') →
        vm'.fp = vm.fp ∧ vm'.pp = vm.pp ∧ vm'.stackSize = vm.stackSize ∧
        (vm'.sp = vm.sp - (p : Int) + (q : Int) ∨ (vm'.sp = vm.sp ∧ vm'.running = 2)) := by
  unfold isArith at ha
  cases hb : binOpOf ins.op with
  | some tb =>
    exact ⟨2, 1, by simp [simpleEffect, hb], effect_of_family 2 1 (exec_bin md ins orc tb.1 tb.2 hb) (execBin_effect _ _) (by omega)⟩
  | none =>
    cases hu : unOpOf ins.op with
    | some tu =>
      exact ⟨1, 1, by simp [simpleEffect, hb, hu], effect_of_family 1 1 (exec_un md ins orc tu.1 tu.2 hb hu) (execUn_effect _ _) (by omega)⟩
    | none =>
      cases hc : convOf ins.op with
      | some tc =>
        exact ⟨1, 1, by simp [simpleEffect, hb, hu, hc],
          effect_of_family 1 1 (exec_conv md ins orc tc.1 tc.2 hb hu hc) (execConv_effect _ _) (by omega)⟩
      | none => simp [hb, hu, hc] at ha

/-- **Soundness of the verifier's whole stack-effect table** (proved in Lemmas/VmEffectSound.lean, restated here):
for every instruction to which `Ver.simpleEffect` assigns `(pops, pushes)`, the M-VM handler started on any machine
state with `sp = s` and run to completion leaves `fp`, `pp` and the stack size alone and ends with
`sp = s + pushes - pops`, or with an exception raised (the handler entered next resets `sp` from the frame), or
stopped in `VM_ERROR` (failed `assert`).  The attempt to prove this found the defect repaired by d4916ed
(`c_string_ptr` popped its operand). -/
theorem simple_effect_sound (md : Module) (ins : Instr) (orc : Oracle) (p q : Nat) (h : simpleEffect ins = some (p, q)) (s : Int) :
    ∀ vm a vm', vm.sp = s → (exec md ins orc).run vm = .ok (a, vm') →
      vm'.fp = vm.fp ∧ vm'.pp = vm.pp ∧ vm'.stackSize = vm.stackSize ∧
      (vm'.sp = s + ((q : Int) - (p : Int)) ∨ vm'.running = 2 ∨ vm'.running = 3) :=
  Vm.simple_effect_sound md ins orc p q h s

/-- the table is defined on 198 of the 222 opcodes (operand 1); the rest are the frame opcodes of Lemmas/Frame.lean,
MK_INIT_ARRAY (handled with constant propagation), JUMP, the FFI opcodes and the placeholders -/
example : (Opc.all.toList.filter fun op => (simpleEffect { op := op, w0 := 1, w1 := 0, w2 := 0 }).isSome).length = 198 := by decide +kernel

/-- **The height map of a verified module is flow-consistent**: at every reached address that holds an instruction of
the effect table (any except `JUMPZ`), the operands exist and the height recorded for the next address is
`h − pops + pushes`. (From the certificate re-check `flowOk` that `verifyH` applies to its own result.) -/
theorem verified_flow (md : Module) (sm : Summary) (hm : HMap) (hv : verifyH md = .ok (sm, hm))
    (a : Nat) (i : Instr) (st : AbsSt) (p q : Nat)
    (hi : md.code[a]? = some i) (hs : hm[a]? = some (some st)) (he : simpleEffect i = some (p, q)) (hj : i.op ≠ .JUMPZ) :
    ∃ st', hm[a + 1]? = some (some st') ∧ p ≤ st.h ∧ st'.h + p = st.h + q :=
  flow_table (verifyH_ok md sm hm hv).2 hi hs he hj

/-- **A verified module runs at the verified heights, instruction by instruction.**  Let the machine be running at an
address `a` of a verified module that holds an instruction of the effect table (not `JUMPZ`), with
`sp = base + h(a)` for the height `h(a)` the verifier recorded (`base` = `pp + nparams` of the running function). After one
`step`: the frame registers are unchanged and either the machine is running at `a + 1` with `sp = base + h(a + 1)` — the
recorded height of that address —, or an exception was raised and control is at the handler the (well-formed) exception
table assigns to `a`, or the machine stopped in VM_ERROR. -/
theorem verified_step_keeps_height (md : Module) (orc : Oracle) (sm : Summary) (hm : HMap) (hv : verifyH md = .ok (sm, hm))
    (vm vm' : Vm) (i : Instr) (st : AbsSt) (p q : Nat) (base : Int)
    (hi : md.code[vm.ip]? = some i) (hs : hm[vm.ip]? = some (some st)) (he : simpleEffect i = some (p, q)) (hj : i.op ≠ .JUMPZ)
    (hrun : vm.running = 1) (hinv : vm.sp = base + (st.h : Int))
    (hstep : (step md orc).run vm = .ok ((), vm')) :
    vm'.fp = vm.fp ∧ vm'.pp = vm.pp ∧ vm'.stackSize = vm.stackSize ∧
    ((vm'.running = 1 ∧ vm'.ip = vm.ip + 1 ∧ ∃ st', hm[vm'.ip]? = some (some st') ∧ vm'.sp = base + (st'.h : Int)) ∨
     (vm'.running = 1 ∧ excHandler md.exctab md.excCount vm.ip = some vm'.ip) ∨
     vm'.running = 3) := by
  obtain ⟨st', h1, h2, h3⟩ := verified_flow md sm hm hv _ i st p q hi hs he hj
  obtain ⟨a1, a2, a3, a4⟩ := step_table md orc vm vm' i p q hi hrun he hj hstep
  refine ⟨a1, a2, a3, ?_⟩
  rcases a4 with ⟨r, hip, hsp⟩ | a4 | a4
  · left
    refine ⟨r, hip, st', by rw [hip]; exact h1, ?_⟩
    omega
  · right; left; exact a4
  · right; right; exact a4

/-- the branch instructions of a verified module also run at the verified heights: after one `step` on `JUMPZ` / `JUMP` the
machine is running at one of the successors the verifier followed, with `sp = base + h(successor)` -/
theorem verified_branch_keeps_height (md : Module) (orc : Oracle) (sm : Summary) (hm : HMap) (hv : verifyH md = .ok (sm, hm))
    (vm vm' : Vm) (i : Instr) (st : AbsSt) (base : Int)
    (hi : md.code[vm.ip]? = some i) (hs : hm[vm.ip]? = some (some st)) (hop : i.op = .JUMPZ ∨ i.op = .JUMP)
    (hrun : vm.running = 1) (hinv : vm.sp = base + (st.h : Int))
    (hstep : (step md orc).run vm = .ok ((), vm')) :
    vm'.fp = vm.fp ∧ vm'.pp = vm.pp ∧ vm'.stackSize = vm.stackSize ∧ vm'.running = 1 ∧
    ∃ st', hm[vm'.ip]? = some (some st') ∧ vm'.sp = base + (st'.h : Int) := by
  obtain ⟨fz, fj⟩ := flow_branch (verifyH_ok md sm hm hv).2 hi hs
  obtain ⟨a1, a2, a3, a4, a5⟩ := step_branch md orc vm vm' i hi hrun hop hstep
  refine ⟨a1, a2, a3, a4, ?_⟩
  rcases a5 with ⟨hz, hsp, hip⟩ | ⟨hjmp, hsp, hip⟩
  · obtain ⟨h1, ⟨s1, e1, r1⟩, ⟨s2, e2, r2⟩⟩ := fz hz
    rcases hip with hip | hip
    · exact ⟨s1, by rw [hip]; exact e1, by omega⟩
    · exact ⟨s2, by rw [hip]; exact e2, by omega⟩
  · obtain ⟨s2, e2, r2⟩ := fj hjmp
    exact ⟨s2, by rw [hip]; exact e2, by omega⟩

/-- a module that verifies (`7 + 5` and HALT, one catch-all handler): the hypotheses of `verified_step_keeps_height` are met
at address 2, where `OP_ADD_INT` runs at the recorded height 2 and leaves height 1 -/
def tinyModule : Module := { code := #[⟨.INT, 7, 0, 0⟩, ⟨.INT, 5, 0, 0⟩, ⟨.OP_ADD_INT, 0, 0, 0⟩, ⟨.HALT, 0, 0, 0⟩, ⟨.UNHANDLED_EXCEPTION, 0, 0, 0⟩], strtab := #[], exctab := #[⟨0, 4⟩, ⟨4294967295, 0⟩], excCount := 1, codeEntry := 0, entryAddr := 0, params := [] }
example : (match verifyH tinyModule with
    | .ok (_, hm) => (hm.toList.map fun o => o.map (·.h)) == [some 0, some 1, some 2, some 1, some 0]
    | .error _ => false) = true := by decide +kernel

/-- how many opcodes that theorem covers (of `Opc.all`) — not vacuous -/
example : (Opc.all.toList.filter isArith).length = 77 := by decide +kernel

/-! ## From the certificate to executions: frame opcodes, frame-relative addressing, runs inside one activation

`verifyH` re-checks its height map with `flowOk` = `flowOkAt` (the effect table, JUMP) ∧ `frameOkAt` (MARK, CALL, SLIDE, RET,
CLEAR_STACK, PUSH_PARAM, MK_INIT_ARRAY, the reach of the frame-relative opcodes, every edge inside one function) ∧ `handlersOk`
(every handler of the exception table is `[LABEL] CLEAR_STACK/RETHROW/UNHANDLED_EXCEPTION` at a reached address).  The theorems
below rest on that re-check only.  Notation: `fnParamsAt md a` = parameter count (emitter hook) of the function containing `a`;
`AtHeight md hm vm` = running, `ip` reached, `sp = pp + fnParamsAt md ip + h(ip)`; `AtHandler` = running at a handler entry. -/

/-- **What a verified module says statically about its frame opcodes** (at every reached address, executed or not): a function
returns with exactly its result above its parameters (`RET` at height 1); a `CALL` no `MARK` returns behind (a last call) leaves
exactly the fresh-entry frame (height 1 = the function object; 0 after the pop), a marked one finds its function object; both
successors of a `MARK` are reached at the heights `h + 5` (behind it) and `h + 1` (its return address: frame popped, result pushed),
in the same function; `CLEAR_STACK n` has `n` = the parameter count of its function. -/
theorem verified_frame_heights (md : Module) (sm : Summary) (hm : HMap) (hv : verifyH md = .ok (sm, hm))
    (a : Nat) (i : Instr) (st : AbsSt) (hi : md.code[a]? = some i) (hs : hm[a]? = some (some st)) :
    (i.op = .RET → st.h = 1) ∧
    (i.op = .CALL → (markedCall md a = true ∧ 1 ≤ st.h) ∨ (markedCall md a = false ∧ st.h = 1)) ∧
    (i.op = .MARK → (∃ s1, hm[a + 1]? = some (some s1) ∧ s1.h = st.h + 5 ∧ fnParamsAt md (a + 1) = fnParamsAt md a) ∧
                    (∃ s2, hm[i.w0]? = some (some s2) ∧ s2.h = st.h + 1 ∧ fnParamsAt md i.w0 = fnParamsAt md a)) ∧
    (i.op = .CLEAR_STACK → i.w0 = fnParamsAt md a) := by
  obtain ⟨_, hf⟩ := verifyH_ok md sm hm hv
  have hfr := frame_at hf hi
  refine ⟨fun h => frameOkAt_RET hi hs h hfr, fun h => frameOkAt_CALL hi hs h hfr, fun h => ?_, fun h => (frameOkAt_CLEAR_STACK hi hs h hfr).1⟩
  obtain ⟨k1, k2⟩ := frameOkAt_MARK hi hs h hfr
  obtain ⟨s2, e1, e2, e3⟩ := hAt_spec k1
  obtain ⟨s1, f1, f2, f3⟩ := hAt_spec k2
  exact ⟨⟨s1, f1, f2, fnParamsAt_same f3⟩, ⟨s2, e1, e2, fnParamsAt_same e3⟩⟩

/-- **MARK** in a verified module, from a machine at its recorded height: `pp` is left alone, `fp = sp := sp + 5` (the five frame
words), and the machine is at the recorded height of the next address -/
theorem verified_mark_step (md : Module) (orc : Oracle) (sm : Summary) (hm : HMap) (hv : verifyH md = .ok (sm, hm))
    (vm vm' : Vm) (i : Instr) (hi : md.code[vm.ip]? = some i) (hop : i.op = .MARK) (hh : AtHeight md hm vm)
    (hstep : (step md orc).run vm = .ok ((), vm')) :
    vm'.pp = vm.pp ∧ vm'.fp = vm.sp + 5 ∧ vm'.sp = vm.sp + 5 ∧ vm'.ip = vm.ip + 1 ∧ vm'.stackSize = vm.stackSize ∧ AtHeight md hm vm' := by
  obtain ⟨_, hf⟩ := verifyH_ok md sm hm hv
  obtain ⟨hrun, st, hs, hinv⟩ := hh
  obtain ⟨_, r1, r2, r3, _, r5, r6, r7⟩ := step_MARK_regs md orc vm vm' i hi hop hrun hstep
  obtain ⟨_, hk⟩ := frameOkAt_MARK hi hs hop (frame_at hf hi)
  exact ⟨r3, r2, r1, r5, r7, (atHeight_next hf hinv hk r6 r5 r3 (by rw [r1]; omega)).1⟩

/-- **SLIDE q m** in a verified module, from a machine at its recorded height: `sp` moves by `−q`, `fp`/`pp` are left alone, and the
machine is at the recorded height of the next address — in the ordinary case (`q + m ≤ h`) and in the last-call case (`h = q + 1`,
`m = nparams + 1`: the new arguments and the function object replace the parameters; then `sp = pp + nparams + 1`) -/
theorem verified_slide_step (md : Module) (orc : Oracle) (sm : Summary) (hm : HMap) (hv : verifyH md = .ok (sm, hm))
    (vm vm' : Vm) (i : Instr) (hi : md.code[vm.ip]? = some i) (hop : i.op = .SLIDE) (hh : AtHeight md hm vm)
    (hstep : (step md orc).run vm = .ok ((), vm')) :
    vm'.pp = vm.pp ∧ vm'.fp = vm.fp ∧ vm'.sp = vm.sp - (i.w0 : Int) ∧ vm'.ip = vm.ip + 1 ∧ vm'.stackSize = vm.stackSize ∧ AtHeight md hm vm' ∧
    (∀ st, hm[vm.ip]? = some (some st) → i.w0 ≠ 0 → st.h < i.w0 + i.w1 →
       i.w1 = fnParamsAt md vm.ip + 1 ∧ vm'.sp = vm.pp + (fnParamsAt md vm.ip : Int) + 1 ∧ (md.code[vm.ip + 1]?.map (·.op)) = some .CALL) := by
  obtain ⟨_, hf⟩ := verifyH_ok md sm hm hv
  obtain ⟨hrun, st, hs, hinv⟩ := hh
  obtain ⟨r1, r2, r3, _, r5, r6, r7⟩ := step_SLIDE_regs md orc vm vm' i hi hop hrun hstep
  have hc := frameOkAt_SLIDE hi hs hop (frame_at hf hi)
  refine ⟨r3, r2, r1, r5, r7, ?_, ?_⟩
  · rcases hc with ⟨hq, hk⟩ | ⟨hq, hle, hk⟩ | ⟨hq, hlt, hh, _, _, hk⟩
    · exact (atHeight_next hf hinv hk r6 r5 r3 (by rw [r1, hq]; simp)).1
    · exact (atHeight_next hf hinv hk r6 r5 r3 (by rw [r1]; omega)).1
    · exact (atHeight_next hf hinv hk r6 r5 r3 (by rw [r1]; omega)).1
  · intro st2 hs2 hq hlt
    rw [hs] at hs2; cases hs2
    rcases hc with ⟨hq', _⟩ | ⟨_, hle, _⟩ | ⟨_, _, hh, hm1, hcall, _⟩
    · exact absurd hq' hq
    · omega
    · exact ⟨hm1, by rw [r1]; unfold fnParamsAt at hinv ⊢; omega, hcall⟩

/-- **CLEAR_STACK n** in a verified module, from ANY running or just-dispatched machine at a reached address (a catch clause is
entered with whatever `sp` the faulting instruction left): `fp = pp`, `sp = pp + n` with `n` the parameter count of the function, and
the machine is at the recorded height (0) of the next address -/
theorem verified_clear_stack_step (md : Module) (orc : Oracle) (sm : Summary) (hm : HMap) (hv : verifyH md = .ok (sm, hm))
    (vm vm' : Vm) (i : Instr) (st : AbsSt) (hi : md.code[vm.ip]? = some i) (hop : i.op = .CLEAR_STACK) (hs : hm[vm.ip]? = some (some st))
    (hstep : (step md orc).run vm = .ok ((), vm')) :
    vm'.pp = vm.pp ∧ vm'.fp = vm.pp ∧ vm'.sp = vm.pp + (fnParamsAt md vm.ip : Int) ∧ vm'.ip = vm.ip + 1 ∧ vm'.stackSize = vm.stackSize ∧
    AtHeight md hm vm' := by
  obtain ⟨_, hf⟩ := verifyH_ok md sm hm hv
  obtain rfl := step_CLEAR_STACK_eq md orc vm vm' i hi hop hstep
  obtain ⟨hn, hk⟩ := frameOkAt_CLEAR_STACK hi hs hop (frame_at hf hi)
  obtain ⟨st', e1, e2, e3⟩ := hAt_spec hk
  have hn' : i.w0 = fnParamsAt md vm.ip := hn
  refine ⟨rfl, rfl, by rw [← hn']; rfl, rfl, rfl, rfl, st', e1, ?_⟩
  show vm.pp + (i.w0 : Int) = vm.pp + (fnParamsAt md (vm.ip + 1) : Int) + (st'.h : Int)
  rw [fnParamsAt_same e3, e2, hn']; omega

/-- **PUSH_PARAM** (entry stub) and **MK_INIT_ARRAY** in a verified module, from a machine at its recorded height: `pp` is left alone
and the machine is at the recorded height of the next address (or an allocation stopped the machine).  For `MK_INIT_ARRAY` the
hypothesis is that the extents found on the stack are the constants the verifier recorded (pushed by the preceding `INT`s; the
verifier's constant propagation is not re-proved over executions): then exactly `dims + Π extents` slots are popped and one pushed. -/
theorem verified_data_step (md : Module) (orc : Oracle) (sm : Summary) (hm : HMap) (hv : verifyH md = .ok (sm, hm))
    (vm vm' : Vm) (i : Instr) (st : AbsSt) (hi : md.code[vm.ip]? = some i) (hs : hm[vm.ip]? = some (some st))
    (hop : i.op = .PUSH_PARAM ∨ (i.op = .MK_INIT_ARRAY ∧ stackInts vm i.w0 vm.sp = initExts st i.w0))
    (hh : AtHeight md hm vm) (hstep : (step md orc).run vm = .ok ((), vm')) : Succ md hm vm vm' := by
  obtain ⟨_, hf⟩ := verifyH_ok md sm hm hv
  obtain ⟨hrun, st2, hs2, hinv⟩ := hh
  rw [hs] at hs2; cases hs2
  rcases hop with hop | ⟨hop, hext⟩
  · exact succ_PUSH_PARAM hf orc vm vm' i st hi hs hop hrun hinv hstep
  · exact succ_MK_INIT_ARRAY hf orc vm vm' i st hi hs hop hrun hinv hext hstep

/-- **Frame-relative addressing stays in the function's own frame.**  For `ID_LOCAL`, `ID_DIM_LOCAL`, `ID_DIM_SLICE`, `OP_DUP_INT`,
`OP_INC_INT`, `OP_DEC_INT`, `ARRAY_APPEND`, `VEC_DEREF`, `VECREF_VEC_DEREF`, `DUP`, `REWRITE` (`frameDist i = some d`: the handler
reads stack slot `sp − d`, see `frame_slot_is_read`) at a reached address inside a function body of a verified module: whenever
`sp = pp + nparams + h(ip)`, the slot lies in `(pp, sp]` — above the caller's data and the five frame words, at or below the top. -/
theorem verified_local_in_frame (md : Module) (sm : Summary) (hm : HMap) (hv : verifyH md = .ok (sm, hm))
    (a : Nat) (i : Instr) (st : AbsSt) (d : Int) (hi : md.code[a]? = some i) (hs : hm[a]? = some (some st))
    (hd : frameDist i = some d) (hfn : inFunction md a = true)
    (sp pp : Int) (hsp : sp = pp + (fnParamsAt md a : Int) + (st.h : Int)) : pp < sp - d ∧ sp - d ≤ sp :=
  local_in_frame (verifyH_ok md sm hm hv).2 hi hs hd hfn sp pp hsp

/-- the handler of a frame-relative opcode does access slot `sp − frameDist`: if that index were outside the stack array the
handler would not complete (M-VM: crash = an out-of-bounds access of the C array) -/
theorem frame_slot_is_read (md : Module) (i : Instr) (orc : Oracle) (d : Int) (hd : frameDist i = some d) (vm vm' : Vm)
    (h : (exec md i orc).run vm = .ok ((), vm')) : 0 ≤ vm.sp - d ∧ vm.sp - d < vm.stackSize :=
  exec_reads_frame_slot md i orc d hd vm vm' h

/-- **One step inside an activation of a verified module.**  From a machine at its recorded height (`AtHeight`) or at a handler
entry (`AtHandler`), a step on any instruction other than CALL / RET / RETHROW / HALT / UNHANDLED_EXCEPTION (`Inside`; for
`MK_INIT_ARRAY` it also asks that the extents on the stack are the recorded constants) leaves `pp` and the stack size alone and
ends: at the recorded height of the address it reached, along an edge the certificate knows (`EdgeOk`: same function, the recorded
calls in preparation are those behind the instruction, no run of `INT` constants continues there except behind an `INT`); or at a handler entry — the next address, or the
handler the exception table assigns to the faulting address —; or with the machine stopped (`running = 3`). -/
theorem verified_step_in_activation (md : Module) (orc : Oracle) (sm : Summary) (hm : HMap) (hv : verifyH md = .ok (sm, hm))
    (vm vm' : Vm) (hg : AtHeight md hm vm ∨ AtHandler md hm vm) (hin : Inside md hm vm)
    (hstep : (step md orc).run vm = .ok ((), vm')) :
    vm'.pp = vm.pp ∧ vm'.stackSize = vm.stackSize ∧
    ((AtHeight md hm vm' ∧ EdgeOk md hm vm.ip vm'.ip) ∨
     (AtHandler md hm vm' ∧ (vm'.ip = vm.ip + 1 ∨ excHandler md.exctab md.excCount vm.ip = some vm'.ip)) ∨
     vm'.running = 3) :=
  step_good (verifyH_ok md sm hm hv).2 orc vm vm' hg hin hstep

/-- **Runs inside one activation of a verified module keep the height invariant** (`RunsTo md P n vm vm'`: `vm'` is reached from
`vm` by `n` steps, each from a running machine satisfying `P`, each with arbitrary results of its external calls).  From a machine at
its recorded height or at a handler entry, as long as the executed instructions are not CALL / RET / RETHROW / HALT /
UNHANDLED_EXCEPTION (and `MK_INIT_ARRAY` finds the recorded constants), every reached state has the same `pp` and stack size and is
again at the recorded height of ITS address (`sp = pp + nparams + h(ip)`), or at a handler entry (whose `CLEAR_STACK` re-establishes
the height), or the machine stopped. -/
theorem verified_run_in_activation (md : Module) (sm : Summary) (hm : HMap) (hv : verifyH md = .ok (sm, hm))
    (n : Nat) (vm vm' : Vm) (hg : AtHeight md hm vm ∨ AtHandler md hm vm) (hr : RunsTo md (Inside md hm) n vm vm') :
    vm'.pp = vm.pp ∧ vm'.stackSize = vm.stackSize ∧ ((AtHeight md hm vm' ∨ AtHandler md hm vm') ∨ vm'.running = 3) :=
  runsTo_good (verifyH_ok md sm hm hv).2 n vm vm' hg hr

/-- the same for the loop function `run` (`while (running == VM_RUNNING) step`), with one oracle per step: if every state the run
passes through is `Inside` its activation, the final state satisfies the invariant -/
theorem verified_run_fn_in_activation (md : Module) (sm : Summary) (hm : HMap) (hv : verifyH md = .ok (sm, hm))
    (orc : Nat → Oracle) (n : Nat) (vm vm' : Vm) (hg : AtHeight md hm vm ∨ AtHandler md hm vm)
    (hrun : run md orc n vm = .ok vm')
    (hin : ∀ k v, RunsTo md (fun _ => True) k vm v → v.running = 1 → Inside md hm v) :
    vm'.pp = vm.pp ∧ vm'.stackSize = vm.stackSize ∧ ((AtHeight md hm vm' ∨ AtHandler md hm vm') ∨ vm'.running = 3) := by
  obtain ⟨k, _, hk⟩ := run_runsTo md orc n vm vm' hrun
  exact verified_run_in_activation md sm hm hv k vm vm' hg
    (runsTo_strengthen md _ k vm vm' hk (fun j v _ hr hv => hin j v hr hv))

/-- a module with a marked call, a frame-relative read, a catch clause and a last call; it verifies, and the certificate re-check
`frameOkAt` is exercised at MARK (0), CALL (4, marked; 23, last call), ID_LOCAL (9, 17), RET (12), CLEAR_STACK (14), SLIDE (22) -/
def callModule : Module := {
  code := #[⟨.MARK, 5, 0, 0⟩, ⟨.INT, 7, 0, 0⟩, ⟨.GLOBAL_VEC, 0, 0, 0⟩, ⟨.ID_FUNC_ADDR, 8, 0, 0⟩, ⟨.CALL, 0, 0, 0⟩, ⟨.HALT, 0, 0, 0⟩,
            ⟨.LABEL, 0, 0, 0⟩, ⟨.UNHANDLED_EXCEPTION, 0, 0, 0⟩,
            -- f(x) = x + 1, with a catch clause returning 0
            ⟨.FUNC_DEF, 0, 0, 0⟩, ⟨.ID_LOCAL, 0, 0, 0⟩, ⟨.INT, 1, 0, 0⟩, ⟨.OP_ADD_INT, 0, 0, 0⟩, ⟨.RET, 0, 0, 0⟩,
            ⟨.LABEL, 0, 0, 0⟩, ⟨.CLEAR_STACK, 1, 0, 0⟩, ⟨.INT, 0, 0, 0⟩, ⟨.RET, 0, 0, 0⟩,
            -- g(x) = g(x + 1) as a last call: args; func; SLIDE 1+L 2; CALL  (here L = 0: height 2 = q + 1 with q = 1)
            ⟨.FUNC_DEF, 0, 0, 0⟩, ⟨.ID_LOCAL, 0, 0, 0⟩, ⟨.INT, 1, 0, 0⟩, ⟨.OP_ADD_INT, 0, 0, 0⟩, ⟨.GLOBAL_VEC, 0, 0, 0⟩, ⟨.ID_FUNC_ADDR, 17, 0, 0⟩,
            ⟨.SLIDE, 1, 2, 0⟩, ⟨.CALL, 0, 0, 0⟩, ⟨.LABEL, 0, 0, 0⟩, ⟨.RETHROW, 0, 0, 0⟩],
  strtab := #[], exctab := #[⟨0, 6⟩, ⟨8, 13⟩, ⟨17, 25⟩, ⟨4294967295, 0⟩], excCount := 3, codeEntry := 0, entryAddr := 8, params := [],
  fnParams := [(8, 1), (17, 1)] }

example : (match verifyH callModule with
    | .ok (_, hm) => (hm.toList.map fun o => o.map (·.h)) ==
        [some 0, some 5, some 6, some 7, some 7, some 1, some 0, some 0,
         some 0, some 0, some 1, some 2, some 1, some 0, some 0, some 0, some 1,
         some 0, some 0, some 1, some 2, some 1, some 2, some 2, some 1, some 0, some 0]
    | .error _ => false) = true := by decide +kernel

/-- the certificate is not vacuous: the height map of the good module does not re-check (`flowOk`) against the same code with the
function returning at height 2, with a frame-relative read below the frame, or with a wrong `CLEAR_STACK` count -/
example : (match verifyH callModule with
    | .ok (_, hm) =>
      let bad (a : Nat) (i : Instr) : Bool := !flowOk { callModule with code := callModule.code.set! a i } hm
      bad 11 ⟨.RET, 0, 0, 0⟩ && bad 9 ⟨.ID_LOCAL, 1, 0, 0⟩ && bad 14 ⟨.CLEAR_STACK, 2, 0, 0⟩ && flowOk callModule hm
    | .error _ => false) = true := by decide +kernel

/-- … and address by address (`frameOkAt`): reach below the frame / above the top, `CLEAR_STACK` count, last-call slide one too
far, `RET` at height 2, `MARK` whose return address has the wrong height -/
example : (match verifyH callModule with
    | .ok (_, hm) =>
      let ok (a : Nat) (i : Instr) : Bool := frameOkAt { callModule with code := callModule.code.set! a i } (funcStarts callModule) hm a
      !ok 9 ⟨.ID_LOCAL, 1, 0, 0⟩ && !ok 9 ⟨.ID_LOCAL, 0, 1, 0⟩ && !ok 14 ⟨.CLEAR_STACK, 2, 0, 0⟩ && !ok 23 ⟨.SLIDE, 2, 2, 0⟩ &&
      !ok 11 ⟨.RET, 0, 0, 0⟩ && !ok 0 ⟨.MARK, 4, 0, 0⟩ && ok 9 ⟨.ID_LOCAL, 0, 0, 0⟩ && ok 24 ⟨.CALL, 0, 0, 0⟩
    | .error _ => false) = true := by decide +kernel

/-- the hypotheses of the step theorems are met on a real run: three steps of M-VM from the initial machine of `callModule`
(MARK; INT; GLOBAL_VEC) pass through states at the recorded heights 5, 6, 7 -/
example : (match run callModule (fun _ => {}) 3 { Vm.new 64 32 with running := 1 } with
    | .ok v => v.ip == 3 && v.sp == v.pp + 0 + 7 && v.fp == 4 && v.running == 1
    | .error _ => false) = true := by decide +kernel

/-- the hypotheses of `verified_run_in_activation` are satisfiable on real runs: from the start machine of `callModule` the four
steps MARK; INT; GLOBAL_VEC; ID_FUNC_ADDR form a run `Inside` the activation (checked by the decidable `insideB`), and so do the four
steps of the callee's body from its entry (state after 5 steps) up to its RET -/
example : ∀ sm hm, verifyH callModule = .ok (sm, hm) →
    (∃ k v, RunsTo callModule (Inside callModule hm) k (beginExecute callModule (Vm.new 64 32)) v ∧ v.ip = 4) := by
  intro sm hm hv
  have key : (match verifyH callModule with
      | .ok (_, hm) => (match runInB callModule hm (fun _ => {}) 4 (beginExecute callModule (Vm.new 64 32)) with
                        | some v => v.ip == 4 | none => false)
      | .error _ => false) = true := by decide +kernel
  rw [hv] at key
  simp only at key
  cases hr : runInB callModule hm (fun _ => {}) 4 (beginExecute callModule (Vm.new 64 32)) with
  | none => rw [hr] at key; cases key
  | some v =>
    rw [hr] at key
    obtain ⟨k, hk⟩ := runInB_runsTo callModule hm _ 4 _ _ hr
    exact ⟨k, v, hk, by simpa using key⟩


/-! ## Calls and returns: the global invariant over whole executions

The frame records MARK pushes are followed as a ghost list beside the machine (`Rec`: position `F` of the return-address word =
`fp` after the MARK, saved `pp`, saved `fp`, return address; `ghostNext`: MARK pushes, RET / RETHROW pop, CLEAR_STACK drops the
records of calls in preparation).  The certificate records, per address, the calls in preparation (`AbsSt.marks`: the heights of
their MARKs) and re-checks (`pendOkAt`) that they are properly nested and that no instruction pops, slides or writes into their five
words; it also re-checks that the extents of every MK_INIT_ARRAY are the `INT` instructions immediately before it and that no control
transfer lands behind an `INT` (`intRun`).  `Sound md hm bot vm recs` is the global invariant: the stack array has its size; `fp` is the
innermost live record; the live records are apart (`Desc5`), hold their three words, and returning through each lands at the recorded
height of its return address with the records below it exactly as the function that pushed it will expect (`WF`); and the machine is
at the recorded height of its address, with the pending records where the certificate says and the constants of the `INT` run on
the stack (`Here`), or at a handler entry; and the heap's bookkeeping is intact (`FreeInv`, kept by every handler of every module:
Props/C09 `vm_heap_bookkeeping_invariant` — so the allocator hands every `INT` a fresh cell).  What the verifier cannot establish enters
as the per-step side condition `StepOk`, one typing matter: the function value at a CALL has the arity of its call site
(`CalleeArity`). -/

/-- **The size of the stack array is an invariant of execution** (any module, any instruction: every stack write of M-VM is in
bounds or a crash): a `step` from a machine whose stack array has the configured size ends in such a machine. -/
theorem stack_size_invariant (md : Module) (orc : Oracle) (vm vm' : Vm) (hs : StackOk vm)
    (hstep : (step md orc).run vm = .ok ((), vm')) : StackOk vm' ∧ vm'.stackSize = vm.stackSize :=
  step_keeps_stackOk md orc vm vm' hs hstep

/-- **Write footprint of the verifier's effect table** (all 198 opcodes, any machine state): the handler of an instruction to
which `simpleEffect` assigns `(pops, pushes)`, started with stack pointer `sp` and run to completion or to a raised exception, leaves
every stack slot below `sp − pops + 1` — everything under its lowest operand — exactly as it was.  (A fourth effect logic,
`NoWr`/`Foot`/`FootAt` in Lemmas/VmNoWr.lean, VmFoot*.lean, reusing the `sp` bookkeeping of `EffAt`.) -/
theorem effect_table_write_footprint (md : Module) (ins : Instr) (orc : Oracle) (p q : Nat) (h : simpleEffect ins = some (p, q))
    (vm vm' : Vm) (hr : (exec md ins orc).run vm = .ok ((), vm')) (j : Int) (hj : j < vm.sp - (p : Int) + 1) : slot vm' j = slot vm j :=
  exec_foot_table md ins orc p q h vm.sp vm () vm' rfl hr j hj

/-- **"Frame words are not overwritten" is a theorem about verified modules.**  In a verified module, from a machine at its recorded
height (`sp = pp + nparams + h(ip)`) a step on ANY instruction other than RET / RETHROW leaves every stack slot at or below
`recTop` as it was, where `recTop` is the top word of the innermost frame record of a call in preparation (`pp + nparams + m + 5` for
the innermost recorded MARK height `m`) or `pp` when no call is in preparation: the instruction's operands lie above the pending
records (`pendOkAt`), it writes nothing under its lowest operand (`effect_table_write_footprint`; MARK writes above the top; SLIDE
only what it moves; PUSH_PARAM only pushes; MK_INIT_ARRAY only its result slot — given the extents on the stack are the recorded
constants, which `Here.mk_init` provides).  Hence (`Split.le_top`) no word of any live frame record — pending, entered, or of a caller —
is touched; RET / RETHROW write exactly the lowest word of the record they pop (`ret_pops_record`). -/
theorem verified_step_keeps_frame_records (md : Module) (orc : Oracle) (sm : Summary) (hm : HMap) (hv : verifyH md = .ok (sm, hm))
    (vm vm' : Vm) (i : Instr) (st : AbsSt) (hi : md.code[vm.ip]? = some i) (hs : hm[vm.ip]? = some (some st)) (hrun : vm.running = 1)
    (hinv : vm.sp = vm.pp + (fnParamsAt md vm.ip : Int) + (st.h : Int)) (hnot : i.op ≠ .RET ∧ i.op ≠ .RETHROW)
    (hmk : i.op = .MK_INIT_ARRAY → stackInts vm i.w0 vm.sp = initExts st i.w0)
    (hstep : (step md orc).run vm = .ok ((), vm')) :
    ∀ j, j ≤ recTop vm.pp (vm.pp + (fnParamsAt md vm.ip : Int)) st.marks → slot vm' j = slot vm j :=
  step_keeps_records (verifyH_ok md sm hm hv).2 orc vm vm' i st hi hs hrun hinv hnot hmk hstep

/-- in particular **a verified function never writes at or below its frame base `pp`**: the frame record it was entered through and
all frames of its callers are out of its reach -/
theorem verified_step_keeps_callers_frames (md : Module) (orc : Oracle) (sm : Summary) (hm : HMap) (hv : verifyH md = .ok (sm, hm))
    (vm vm' : Vm) (i : Instr) (hi : md.code[vm.ip]? = some i) (hh : AtHeight md hm vm)
    (hop : (simpleEffect i).isSome = true ∨ i.op = .MARK ∨ i.op = .SLIDE ∨ i.op = .CALL ∨ i.op = .CLEAR_STACK ∨ i.op = .JUMP)
    (hstep : (step md orc).run vm = .ok ((), vm')) : ∀ j, j ≤ vm.pp → slot vm' j = slot vm j :=
  step_keeps_below_pp (verifyH_ok md sm hm hv).2 orc vm vm' i hi hh hop hstep

/-- **The extents of MK_INIT_ARRAY over executions.**  In a state satisfying the invariant (`Here`), at a MK_INIT_ARRAY the integers
the top `dims` slots point at ARE the constants the verifier recorded: they are the operands of the `dims` `INT` instructions
immediately before it (certificate), each of which extended the run of constants on the stack (`int_extends_consts`: `INT` allocates a
fresh cell — the heap's bookkeeping invariant — and pushes it, touching no older cell), and control cannot have entered the run from
elsewhere (no jump target, return address, function or handler entry lies behind an `INT`). -/
theorem verified_mk_init_array_extents (md : Module) (sm : Summary) (hm : HMap) (hv : verifyH md = .ok (sm, hm)) (bot : Int)
    (vm : Vm) (recs : List Rec) (hh : Here md hm bot vm recs) (i : Instr) (st : AbsSt)
    (hi : md.code[vm.ip]? = some i) (hs : hm[vm.ip]? = some (some st)) (hop : i.op = .MK_INIT_ARRAY) :
    stackInts vm i.w0 vm.sp = initExts st i.w0 :=
  hh.mk_init (verifyH_ok md sm hm hv).2 hi hs hop

/-- **The arity condition is a statement about the function value alone.**  In a state satisfying the invariant, at a CALL, `fp` is
the frame record of the call in preparation (or `pp` for a last call), so the number of slots between it and the function value on
top is `callArgs md hm ip` — a number the certificate fixes per call site.  What remains to be assumed of a CALL (`CalleeArity`) is
therefore only: the function object on top holds nil or the entry address of a function with that many parameters.
WHY THIS IS A TYPING MATTER: which function value reaches a call site is decided by data flow through variables, closures, records
and arrays — the bytecode carries no types, a `func` object is just (environment, address), and `CALL` jumps to whatever address it
finds.  That every value flowing to the site `f(a₁ … aₙ)` is a function of `n` parameters is exactly what the type checker establishes
(`f : (T₁ … Tₙ) → T`; C06) and what compiling preserves (C02); the verifier, which sees one module's code and not the values, cannot.
`arityModule` (below) verifies and violates it. -/
theorem callee_arity_suffices (md : Module) (sm : Summary) (hm : HMap) (hv : verifyH md = .ok (sm, hm)) (bot : Int)
    (vm : Vm) (recs : List Rec) (i : Instr) (hi : md.code[vm.ip]? = some i) (hop : i.op = .CALL)
    (hfp : vm.fp = topF bot recs) (hh : Here md hm bot vm recs) (h : CalleeArity md hm vm) : CallOk md vm :=
  calleeArity_callOk (verifyH_ok md sm hm hv).2 hi hop hfp hh h

/-- the record a MARK pushes: `F = sp + 5`, the `pp` and `fp` of the moment, the MARK's return address -/
theorem mark_pushes_record (md : Module) (vm : Vm) (recs : List Rec) (i : Instr) (hi : md.code[vm.ip]? = some i) (hop : i.op = .MARK) :
    ghostNext md vm recs = { F := vm.sp + 5, pp := vm.pp, fp := vm.fp, ra := i.w0 } :: recs := by
  unfold ghostNext; simp only [hi, hop]

/-- **`verify_sound`, relative to the arity of function values.**  In a verified module, every run of M-VM — calls, returns, raised and
re-raised exceptions included — from a state satisfying the global invariant `Sound`, ends in a state that satisfies it again —
running at an address the verifier reached, with exactly the stack height it recorded there above the parameters of the running
function, every frame record intact, the heap's bookkeeping intact, or at a handler entry —, or the machine stopped (`running = 3`:
failed assert / unhandled exception) or halted (`running = 0`) — provided each step meets `StepOk` (`RunsG`): at a CALL the function
value has the arity of its call site (`CalleeArity`, see `callee_arity_suffices`: type soundness), and a RET / RETHROW finds a live
record (the run has not returned out of the activation it was started in).
Proved of verified modules, not assumed: frame words are not overwritten (`verified_step_keeps_frame_records`); MK_INIT_ARRAY finds the
recorded constants (`verified_mk_init_array_extents`); the allocator hands out free cells (C09 `vm_heap_bookkeeping_invariant`, for ANY
module).  PARTIAL for the arity condition only, which is checked on every replayed step (`stepOkB`). -/
theorem verify_sound_partial (md : Module) (sm : Summary) (hm : HMap) (hv : verifyH md = .ok (sm, hm)) (bot : Int)
    (n : Nat) (vm vm' : Vm) (recs recs' : List Rec) (hs : Sound md hm bot vm recs) (hr : RunsG md hm n vm recs vm' recs') :
    Sound md hm bot vm' recs' ∨ vm'.running = 3 ∨ vm'.running = 0 :=
  runsG_sound (verifyH_ok md sm hm hv).2 n vm vm' recs recs' hs hr

/-- … in particular from the machine the first `nev_execute` starts on (empty stack, no live record) -/
theorem verify_sound_from_start_partial (md : Module) (sm : Summary) (hm : HMap) (hv : verifyH md = .ok (sm, hm))
    (mem stack gcMode : Nat) (hmem : 1 ≤ mem) (n : Nat) (vm' : Vm) (recs' : List Rec)
    (hr : RunsG md hm n (beginExecute md (Vm.new mem stack gcMode)) [] vm' recs') :
    Sound md hm (-1) vm' recs' ∨ vm'.running = 3 ∨ vm'.running = 0 :=
  verify_sound_partial md sm hm hv (-1) n _ vm' [] recs' (sound_initial (verifyH_ok md sm hm hv).2 mem stack gcMode hmem) hr

/-- one step of it (any instruction) -/
theorem verify_sound_step_partial (md : Module) (orc : Oracle) (sm : Summary) (hm : HMap) (hv : verifyH md = .ok (sm, hm)) (bot : Int)
    (vm vm' : Vm) (recs : List Rec) (hs : Sound md hm bot vm recs) (hstep : (step md orc).run vm = .ok ((), vm'))
    (hok : StepOk md hm vm recs) : Sound md hm bot vm' (ghostNext md vm recs) ∨ vm'.running = 3 ∨ vm'.running = 0 :=
  Ver.step_sound (verifyH_ok md sm hm hv).2 orc vm vm' recs hs hstep hok

/-- **A call returns to its MARK with exactly its result.**  RET in a verified module, from a state satisfying the global invariant
with innermost live record `r` (pushed by the MARK executed at stack pointer `sp₀ = r.F − 5`, in a frame with `pp = r.pp`, `fp = r.fp`,
return address `r.ra`): the machine is running at `r.ra` with `sp = r.F − 4 = sp₀ + 1` — the frame record and everything above it
popped, the one result pushed —, `pp` and `fp` restored to their values at the MARK; the record is no longer live, and the invariant
holds again (in particular `sp = pp + nparams + h(r.ra)`: the recorded height of the return address). -/
theorem verified_ret_step (md : Module) (orc : Oracle) (sm : Summary) (hm : HMap) (hv : verifyH md = .ok (sm, hm)) (bot : Int)
    (vm vm' : Vm) (recs : List Rec) (i : Instr) (hi : md.code[vm.ip]? = some i) (hop : i.op = .RET)
    (hs : Sound md hm bot vm recs) (hstep : (step md orc).run vm = .ok ((), vm')) (hne : recs ≠ []) :
    ∃ r rs, recs = r :: rs ∧ vm'.ip = r.ra ∧ vm'.sp = r.F - 4 ∧ vm'.fp = r.fp ∧ vm'.pp = r.pp ∧ vm'.running = 1 ∧ Sound md hm bot vm' rs := by
  have hrun := hs.1.running
  obtain ⟨⟨hso, hfp, hd, hwf, _⟩, hfree⟩ := hs
  obtain ⟨h, r, rs, e1, e2, e3, e4, e5, e6, e7⟩ := sound_RET (verifyH_ok md sm hm hv).2 orc vm vm' recs i hi hop hso hfp hd hwf hrun hne hstep
  rw [e2] at h
  exact ⟨r, rs, e1, e3, e4, e5, e6, e7, h, step_keeps_freeInv md orc vm vm' hfree hstep⟩

/-- **A complete (balanced) call returns behind its MARK with exactly its result.**  Let a verified module's machine satisfy the
global invariant with live records `recs`, about to execute `MARK ra` at stack pointer `sp₀`.  After the MARK (the live records are
`r₀ :: recs`, `r₀` = the record it pushed), let the run go on in any way — arguments, nested calls, the CALL itself, the whole callee,
exceptions caught inside — (`RunsG`: the arity condition at every CALL) to a running state whose live records are again exactly
`r₀ :: recs` and whose instruction is `RET`.  Then that RET — the matching one — continues at `ra` with `sp = sp₀ + 1` (frame record,
arguments and everything the callee pushed are gone; the one result is pushed), `fp` and `pp` as they were at the MARK, and the global
invariant holds with live records `recs`: in particular `sp = pp + nparams + h(ra)`, the height the verifier recorded behind the call. -/
theorem verified_marked_call_returns (md : Module) (sm : Summary) (hm : HMap) (hv : verifyH md = .ok (sm, hm)) (bot : Int)
    (vm v1 v2 v3 : Vm) (recs : List Rec) (i j : Instr) (orc1 orc3 : Oracle) (k : Nat)
    (hs : Sound md hm bot vm recs)
    (hi : md.code[vm.ip]? = some i) (hop : i.op = .MARK)
    (hstep1 : (step md orc1).run vm = .ok ((), v1))
    (hrun : RunsG md hm k v1 ({ F := vm.sp + 5, pp := vm.pp, fp := vm.fp, ra := i.w0 } :: recs) v2 ({ F := vm.sp + 5, pp := vm.pp, fp := vm.fp, ra := i.w0 } :: recs))
    (hr2 : v2.running = 1) (hj : md.code[v2.ip]? = some j) (hret : j.op = .RET)
    (hstep3 : (step md orc3).run v2 = .ok ((), v3)) :
    v3.ip = i.w0 ∧ v3.sp = vm.sp + 1 ∧ v3.fp = vm.fp ∧ v3.pp = vm.pp ∧ v3.running = 1 ∧ Sound md hm bot v3 recs := by
  have hok1 : StepOk md hm vm recs := by
    intro i' hi'
    rw [hi] at hi'
    cases hi'
    rw [hop]
    exact ⟨nofun, fun h => h.elim nofun nofun⟩
  -- the MARK and the run behind it are one run from `(vm, recs)`
  have hgn : ghostNext md vm recs = { F := vm.sp + 5, pp := vm.pp, fp := vm.fp, ra := i.w0 } :: recs := by
    unfold ghostNext; simp only [hi, hop]
  have hrun' : RunsG md hm (k + 1) vm recs v2 _ := .succ orc1 hs.1.running hstep1 hok1 (by rw [hgn]; exact hrun)
  have hs2 := (verify_sound_partial md sm hm hv bot _ vm v2 recs _ hs hrun').resolve_right (by omega)
  obtain ⟨r, rs, e, e1, e2, e3, e4, e5, e6⟩ := verified_ret_step md orc3 sm hm hv bot v2 v3 _ j hj hret hs2 hstep3 (by simp)
  cases e
  exact ⟨e1, by rw [e2]; simp only; omega, e3, e4, e5, e6⟩

/-- the global invariant holds of the start machine of `callModule` -/
example : ∀ sm hm, verifyH callModule = .ok (sm, hm) → Sound callModule hm (-1) (beginExecute callModule (Vm.new 64 32)) [] :=
  fun sm hm hv => sound_initial (verifyH_ok callModule sm hm hv).2 64 32 0 (by decide)

/-- the certificate's record of the calls in preparation in `callModule`: between the MARK at 0 (height 0) and its CALL at 4 -/
example : (match verifyH callModule with
    | .ok (_, hm) => (hm.toList.take 9).map (fun o => o.map (·.marks)) ==
        [some [], some [0], some [0], some [0], some [0], some [], some [], some [], some []]
    | .error _ => false) = true := by decide +kernel

/-- a whole run of `callModule` — MARK, the argument, the function value, CALL into `f`, `x + 1`, RET back behind the CALL, HALT —
ends halted with exactly the result on the stack (`sp = 0`), `fp = pp = −1` restored; inside the callee (5 steps) `pp = fp = 4` (the
record), `sp = pp + 1`; between the entry of `f` and its RET (9 steps) the slots 0 … 4 of the record are untouched -/
example : (match run callModule (fun _ => {}) 11 (beginExecute callModule (Vm.new 64 32)),
                 run callModule (fun _ => {}) 5 (beginExecute callModule (Vm.new 64 32)),
                 run callModule (fun _ => {}) 9 (beginExecute callModule (Vm.new 64 32)) with
    | .ok v, .ok a, .ok b =>
      v.running == 0 && v.ip == 6 && v.sp == 0 && v.fp == -1 && v.pp == -1 &&
      a.running == 1 && a.ip == 8 && a.pp == 4 && a.fp == 4 && a.sp == a.pp + 1 + 0 &&
      b.pp == 4 && b.ip == 12 && (List.range 5).all (fun j => slot b j == slot a j) && slot b 6 != slot a 6
    | _, _, _ => false) = true := by decide +kernel

/-- **the side conditions `StepOk` are satisfiable on a run with a call and a return**: the whole run of `callModule` from its start
machine to HALT (11 steps) is a `RunsG` run — every step meets the side conditions (checked by the decidable `stepOkB`, sound by
`stepOkB_sound`) —, so `verify_sound_partial` applies to it -/
example : ∀ sm hm, verifyH callModule = .ok (sm, hm) →
    ∃ k vm' recs', RunsG callModule hm k (beginExecute callModule (Vm.new 64 32)) [] vm' recs' ∧ vm'.running = 0 ∧ recs' = [] := by
  intro sm hm hv
  have key : (match verifyH callModule with
      | .ok (_, hm) =>
        (match runGB callModule hm (fun _ => {}) 11 (beginExecute callModule (Vm.new 64 32)) [] with
         | some (v, rs) => v.running == 0 && rs.isEmpty
         | none => false)
      | .error _ => false) = true := by decide +kernel
  rw [hv] at key
  simp only at key
  cases hr : runGB callModule hm (fun _ => {}) 11 (beginExecute callModule (Vm.new 64 32)) [] with
  | none => rw [hr] at key; cases key
  | some p =>
    obtain ⟨v, rs⟩ := p
    rw [hr] at key
    simp only [Bool.and_eq_true, beq_iff_eq, List.isEmpty_iff] at key
    obtain ⟨k, hk⟩ := runGB_runsG callModule hm _ 11 _ _ _ _ hr
    exact ⟨k, v, rs, hk, key.1, key.2⟩

/-- **the arity side condition is needed** (the verifier cannot know it: function values are dynamic).  `arityModule` is `callModule`
with a second argument pushed for the one-parameter function `f`.  It verifies — every height, every pending record re-checks; the
call site passes `callArgs = 2` —, but its run enters `f`, a function of 1 parameter, with `sp = pp + 2`: one slot above the recorded
height 0 of the entry.  `stepOkB` refuses exactly the CALL (step 5).  In the language this is excluded by the type checker (C06), not
by the bytecode verifier. -/
def arityModule : Module := { callModule with
  code := #[⟨.MARK, 6, 0, 0⟩, ⟨.INT, 7, 0, 0⟩, ⟨.INT, 9, 0, 0⟩, ⟨.GLOBAL_VEC, 0, 0, 0⟩, ⟨.ID_FUNC_ADDR, 9, 0, 0⟩, ⟨.CALL, 0, 0, 0⟩, ⟨.HALT, 0, 0, 0⟩,
            ⟨.LABEL, 0, 0, 0⟩, ⟨.UNHANDLED_EXCEPTION, 0, 0, 0⟩,
            ⟨.FUNC_DEF, 0, 0, 0⟩, ⟨.ID_LOCAL, 0, 0, 0⟩, ⟨.INT, 1, 0, 0⟩, ⟨.OP_ADD_INT, 0, 0, 0⟩, ⟨.RET, 0, 0, 0⟩,
            ⟨.LABEL, 0, 0, 0⟩, ⟨.RETHROW, 0, 0, 0⟩],
  exctab := #[⟨0, 7⟩, ⟨9, 14⟩, ⟨4294967295, 0⟩], excCount := 2, entryAddr := 9, fnParams := [(9, 1)] }

example : (match verifyH arityModule with
    | .ok (_, hm) =>
      callArgs arityModule hm 5 == 2 && fnParamsAt arityModule 9 == 1 &&
      (runGB arityModule hm (fun _ => {}) 12 (beginExecute arityModule (Vm.new 64 32)) []).isNone &&
      (runGB arityModule hm (fun _ => {}) 5 (beginExecute arityModule (Vm.new 64 32)) []).isSome &&
      (match run arityModule (fun _ => {}) 6 (beginExecute arityModule (Vm.new 64 32)) with
       | .ok v => v.ip == 9 && (hm[9]?.map (·.map (·.h))) == some (some 0) && v.sp == v.pp + 1 + 0 + 1
       | .error _ => false)
    | .error _ => false) = true := by decide +kernel

/-- **calls in preparation are protected by the certificate.**  `slideModule` — `MARK`, one value, then an ordinary `SLIDE 5 1`
(`q + m = 6 ≤ h = 6`) that would move the value down over the five frame words MARK has just pushed, then the function value and the
CALL — passed the verifier before the pending-record discipline (every height re-checks) although its SLIDE overwrites the saved-`pp`
word of a live record.  It is now REJECTED: the SLIDE reaches below the top word of the pending record (`pendFloor + q + m ≤ h` fails:
`5 + 6 > 6`).  The same code with the value slid only over itself (`SLIDE 0 1`) is accepted. -/
def slideModule : Module := { callModule with
  code := #[⟨.MARK, 6, 0, 0⟩, ⟨.INT, 1, 0, 0⟩, ⟨.SLIDE, 5, 1, 0⟩, ⟨.GLOBAL_VEC, 0, 0, 0⟩, ⟨.ID_FUNC_ADDR, 9, 0, 0⟩, ⟨.CALL, 0, 0, 0⟩, ⟨.HALT, 0, 0, 0⟩,
            ⟨.LABEL, 0, 0, 0⟩, ⟨.UNHANDLED_EXCEPTION, 0, 0, 0⟩,
            ⟨.FUNC_DEF, 0, 0, 0⟩, ⟨.ID_LOCAL, 0, 0, 0⟩, ⟨.RET, 0, 0, 0⟩, ⟨.LABEL, 0, 0, 0⟩, ⟨.RETHROW, 0, 0, 0⟩],
  exctab := #[⟨0, 7⟩, ⟨9, 12⟩, ⟨4294967295, 0⟩], excCount := 2, entryAddr := 9, fnParams := [(9, 1)] }

example : (match verifyH slideModule, verifyCore slideModule with
    | .error _, .ok (_, hm) =>
      -- the heights alone re-check; the pending-record re-check fails at the SLIDE (address 2) and behind it, where the record is still
      -- recorded as pending although the height has dropped below it
      (List.range 14).all (fun a => flowOkAt slideModule hm a && frameOkAt slideModule (funcStarts slideModule) hm a) &&
      !pendOkAt slideModule hm 2 && ((List.range 14).filter (fun a => !pendOkAt slideModule hm a)) == [2, 3, 4, 5]
    | _, _ => false) = true := by decide +kernel

/-- **MK_INIT_ARRAY**: `arrModule` builds `[7, 8, 9]` (elements, the extent `INT 3`, `MK_INIT_ARRAY 1`) in a function called from the
entry stub.  It verifies, the extents recorded at address 14 are the `INT` run before it, and its whole run meets the side conditions
(and, re-validated though proved: every `INT` gets a free cell, the extents on the stack are the recorded ones).  With a
`LABEL` between the extent and MK_INIT_ARRAY (the extent no longer immediately before) it is rejected. -/
def arrModule : Module := { callModule with
  code := #[⟨.MARK, 4, 0, 0⟩, ⟨.GLOBAL_VEC, 0, 0, 0⟩, ⟨.ID_FUNC_ADDR, 7, 0, 0⟩, ⟨.CALL, 0, 0, 0⟩, ⟨.HALT, 0, 0, 0⟩,
            ⟨.LABEL, 0, 0, 0⟩, ⟨.UNHANDLED_EXCEPTION, 0, 0, 0⟩,
            ⟨.FUNC_DEF, 0, 0, 0⟩, ⟨.LINE, 1, 0, 0⟩, ⟨.LINE, 1, 0, 0⟩, ⟨.INT, 9, 0, 0⟩, ⟨.INT, 8, 0, 0⟩, ⟨.INT, 7, 0, 0⟩, ⟨.INT, 3, 0, 0⟩,
            ⟨.MK_INIT_ARRAY, 1, 0, 0⟩, ⟨.RET, 0, 0, 0⟩, ⟨.LABEL, 0, 0, 0⟩, ⟨.RETHROW, 0, 0, 0⟩],
  exctab := #[⟨0, 5⟩, ⟨7, 16⟩, ⟨4294967295, 0⟩], excCount := 2, entryAddr := 7, fnParams := [(7, 0)] }

example : (match verifyH arrModule with
    | .ok (_, hm) =>
      intRun arrModule 14 == [3, 7, 8, 9] && (hm[14]?.map (·.map (fun st => initExts st 1))) == some (some (some [3])) &&
      (match runGB arrModule hm (fun _ => {}) 14 (beginExecute arrModule (Vm.new 64 32)) [] with
       | some (v, rs) => v.running == 0 && rs.isEmpty && v.sp == 0
       | none => false)
    | .error _ => false) = true := by decide +kernel

example : (match verifyH { arrModule with code := (arrModule.code.set! 9 ⟨.INT, 3, 0, 0⟩).set! 13 ⟨.LABEL, 0, 0, 0⟩ } with
    | .error _ => true | .ok _ => false) = true := by decide +kernel

end Never.C07
