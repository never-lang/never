/-
C02 — compiled programs compute what the language's evaluation rules say.

What is PROVED here are the laws of the reference evaluator S = `Never.Src.eval` (M-Src) that the
property names: evaluation orders, short circuit, shared cells, determinism / fuel monotonicity.
That the real pipeline computes `eval` is NOT proved: it is checked by differential testing
(checks/src_corr.py) on every run.
-/
import NeverModel.Lemmas.SrcTop
import NeverModel.Lemmas.SrcRange
import NeverModel.Lemmas.SrcMod
namespace Never.Src.C02
open Never.Src

def _root_.Never.Src.Outcome.out : Outcome → Bytes
  | .result _ o | .unhandled _ o | .assertFailed o | .outOfFuel o | .crash _ o | .stuck _ o => o

def _root_.Never.Src.Outcome.isOutOfFuel : Outcome → Prop
  | .outOfFuel _ => True
  | _ => False

def _root_.Never.Src.Outcome.exc? : Outcome → Option Exc
  | .unhandled e _ => some e
  | _ => none

instance (o : Outcome) : Decidable o.isOutOfFuel := by
  cases o <;> simp only [Outcome.isOutOfFuel] <;> infer_instance

/-- the int a run returns, if it returns one -/
def _root_.Never.Src.Outcome.int? : Outcome → Option Int
  | .result (.int v) _ => some v.toInt
  | _ => none

/-! ### call / constructor / array-literal arguments: right to left -/

/-- **Arguments right to left.**  The argument list `e :: es` is evaluated by evaluating the
arguments to the RIGHT first (`es`), then `e` in the state they leave. -/
theorem eval_order_call_args_right_to_left (n : Nat) (ctx : Ctx) (env : Env) (e : Expr) (es : List Expr)
    (s s1 s2 : St) (ls : List Loc) (l : Loc)
    (hes : evalArgs n ctx env es s = .ok ls s1) (he : evalE n ctx env e s1 = .ok l s2) :
    evalArgs (n + 1) ctx env (e :: es) s = .ok (l :: ls) s2 := by
  simp only [evalArgs, bind_eq, M.bind, hes, he]; rfl

/-- a fault in an argument to the right: the arguments to its left are never evaluated
(`e` is arbitrary — it may print, fault or diverge) -/
theorem eval_order_call_args_fault_right (n : Nat) (ctx : Ctx) (env : Env) (e : Expr) (es : List Expr)
    (s s1 : St) (ex : Exc) (hes : evalArgs n ctx env es s = .exc ex s1) :
    evalArgs (n + 1) ctx env (e :: es) s = .exc ex s1 := by
  simp only [evalArgs, bind_eq, M.bind, hes]

/-- a call evaluates its arguments (right to left), THEN the function expression, then the body -/
theorem eval_order_call (n : Nat) (ctx : Ctx) (env : Env) (fe : Expr) (args : List Expr)
    (s s1 s2 : St) (ls : List Loc) (lf : Loc) (fid : Nat) (cells : List Loc)
    (hargs : evalArgs n ctx env args s = .ok ls s1) (hf : evalE n ctx env fe s1 = .ok lf s2)
    (hclo : s2.mem[lf]? = some (.clo (some (fid, cells)))) :
    evalE (n + 1) ctx env (.call fe args) s = callClo n ctx fid cells ls s2 := by
  simp only [evalE, bind_eq, M.bind, hargs, hf, load, hclo]

/-- record constructor, tuple and array literal use the same right-to-left argument evaluation -/
theorem eval_order_constructor_args (n : Nat) (ctx : Ctx) (env : Env) (args : List Expr) (s s1 : St) (ex : Exc)
    (h : evalArgs n ctx env args s = .exc ex s1) (rn : Name) (dims : List Nat) (ty : Ty) :
    evalE (n + 1) ctx env (.record rn args) s = .exc ex s1 ∧
    evalE (n + 1) ctx env (.tuple args) s = .exc ex s1 ∧
    evalE (n + 1) ctx env (.arrLit dims args ty) s = .exc ex s1 := by
  simp only [evalE, bind_eq, M.bind, h, and_self]

/-! ### binary operands: left to right -/

/-- **Binary operands left to right.**  `a op b`: `a` first, `b` in the state `a` leaves, then the
two operand CELLS are read and combined. -/
theorem eval_order_binary_left_to_right (n : Nat) (ctx : Ctx) (env : Env) (op : BinOp) (a b : Expr)
    (s s1 s2 : St) (la lb : Loc)
    (ha : evalE n ctx env a s = .ok la s1) (hb : evalE n ctx env b s1 = .ok lb s2) :
    evalE (n + 1) ctx env (.bin op a b) s =
      (do let va ← load la; let vb ← load lb; let r ← binopM op va vb; alloc r) s2 := by
  simp only [evalE, bind_eq, M.bind, ha, hb]

/-- a fault in the left operand: the right operand is never evaluated -/
theorem eval_order_binary_fault_left (n : Nat) (ctx : Ctx) (env : Env) (op : BinOp) (a b : Expr)
    (s s1 : St) (ex : Exc) (ha : evalE n ctx env a s = .exc ex s1) :
    evalE (n + 1) ctx env (.bin op a b) s = .exc ex s1 := by
  simp only [evalE, bind_eq, M.bind, ha]

/-- a fault in the right operand happens in the state the left operand left (its effects are kept) -/
theorem eval_order_binary_fault_right (n : Nat) (ctx : Ctx) (env : Env) (op : BinOp) (a b : Expr)
    (s s1 s2 : St) (la : Loc) (ex : Exc)
    (ha : evalE n ctx env a s = .ok la s1) (hb : evalE n ctx env b s1 = .exc ex s2) :
    evalE (n + 1) ctx env (.bin op a b) s = .exc ex s2 := by
  simp only [evalE, bind_eq, M.bind, ha, hb]

/-- assignment: the LEFT side is evaluated first -/
theorem eval_order_assign_fault_left (n : Nat) (ctx : Ctx) (env : Env) (l r : Expr)
    (s s1 : St) (ex : Exc) (hl : evalE n ctx env l s = .exc ex s1) :
    evalE (n + 1) ctx env (.assign l r) s = .exc ex s1 := by
  simp only [evalE, bind_eq, M.bind, hl]

/-! ### short circuit -/

/-- **`false && e` does not evaluate `e`** (whatever `e` is): the result is a fresh cell
holding 0, in the state the left operand left. -/
theorem eval_order_and_short_circuit (n : Nat) (ctx : Ctx) (env : Env) (a b : Expr) (s s1 : St) (la : Loc)
    (ha : evalE n ctx env a s = .ok la s1) (h0 : s1.mem[la]? = some (.int 0)) :
    evalE (n + 1) ctx env (.and a b) s = alloc (.int 0) s1 := by
  simp only [evalE, bind_eq, M.bind, ha, load, h0, truthy, pure, M.pure]
  rfl

/-- **`true || e` does not evaluate `e`.** -/
theorem eval_order_or_short_circuit (n : Nat) (ctx : Ctx) (env : Env) (a b : Expr) (s s1 : St) (la : Loc) (v : Int32)
    (ha : evalE n ctx env a s = .ok la s1) (h1 : s1.mem[la]? = some (.int v)) (hv : (v != 0) = true) :
    evalE (n + 1) ctx env (.or a b) s = alloc (.int 1) s1 := by
  simp only [evalE, bind_eq, M.bind, ha, load, h1, truthy, pure, M.pure, hv]
  rfl

/-- when the left operand of `&&` is true the right one IS evaluated, after it -/
theorem eval_order_and_evaluates_right (n : Nat) (ctx : Ctx) (env : Env) (a b : Expr) (s s1 s2 : St) (la : Loc) (v : Int32)
    (ex : Exc) (ha : evalE n ctx env a s = .ok la s1) (h1 : s1.mem[la]? = some (.int v)) (hv : (v != 0) = true)
    (hb : evalE n ctx env b s1 = .exc ex s2) :
    evalE (n + 1) ctx env (.and a b) s = .exc ex s2 := by
  simp only [evalE, bind_eq, M.bind, ha, load, h1, truthy, pure, M.pure, hv, if_true, hb]

/-! ### determinism, fuel monotonicity -/

/-- **Fuel monotonicity.**  An outcome other than "out of fuel" is the outcome for every larger fuel. -/
theorem eval_fuel_mono (p : Prog) (args : List Arg) (n m : Nat) (h : n ≤ m)
    (hn : ¬ (eval p args n).isOutOfFuel) : eval p args m = eval p args n := by
  have : ¬ (runMain p args n).isOOF := by
    intro hoof
    unfold Res.isOOF at hoof
    split at hoof
    · rename_i heq
      exact hn (by simp only [eval, heq]; trivial)
    · exact hoof
  simp only [eval, runMain_mono p args n m h this]

/-- **Determinism.**  `eval` is a function; two fuels that both suffice give the same outcome. -/
theorem eval_deterministic (p : Prog) (args : List Arg) (n m : Nat)
    (hn : ¬ (eval p args n).isOutOfFuel) (hm : ¬ (eval p args m).isOutOfFuel) :
    eval p args n = eval p args m := by
  cases Nat.le_total n m with
  | inl h => exact (eval_fuel_mono p args n m h hn).symm
  | inr h => exact eval_fuel_mono p args m n h hm

/-! ### binding shares cells -/

/-- a use of a name evaluates to the name's CELL (no copy, no allocation, store unchanged) -/
theorem var_evaluates_to_its_cell (n : Nat) (ctx : Ctx) (env : Env) (x : Name) (l : Loc) (s : St)
    (h : lookup x env = some l) : evalE (n + 1) ctx env (.var x) s = .ok l s := by
  simp only [evalE, h]; rfl

/-- **Binding never copies.**  `let b = a` / `var b = a` binds `b` to the very cell of `a`: the rest
of the block runs in an environment where `a` and `b` denote the same location. -/
theorem binding_shares_cells (n : Nat) (ctx : Ctx) (env : Env) (isVar : Bool) (a b : Name) (l : Loc)
    (rest : List Item) (s : St) (h : lookup a env = some l) :
    evalSeq (n + 2) ctx env (.bind isVar b (.var a) :: rest) s = evalSeq (n + 1) ctx ((b, l) :: env) rest s := by
  simp only [evalSeq, bind_eq, M.bind, var_evaluates_to_its_cell n ctx env a l s h]

/-- … hence an assignment through one name is read through the other: after `a = e`, reading
`b` (bound to the same cell) yields the stored value. -/
theorem assignment_seen_through_alias (n : Nat) (ctx : Ctx) (env : Env) (a b : Name) (l : Loc) (s : St)
    (ha : lookup a env = some l) (hb : lookup b env = some l) (v : Val) (hl : l < s.mem.size) :
    ∀ s', store l v s = .ok () s' →
      evalE (n + 1) ctx env (.var a) s' = .ok l s' ∧ evalE (n + 1) ctx env (.var b) s' = .ok l s' ∧ s'.mem[l]? = some v := by
  intro s' hs
  refine ⟨var_evaluates_to_its_cell n ctx env a l s' ha, var_evaluates_to_its_cell n ctx env b l s' hb, ?_⟩
  simp only [store] at hs
  injection hs with _ h2
  rw [← h2]
  simp [hl]

/-- parameter passing shares cells too: the callee's parameter is bound to the argument's cell
(no numeric conversion applying) -/
theorem parameter_shares_cell (p : Param) (l : Loc) (env : Env) (s : St) (v : Val)
    (hv : s.mem[l]? = some v) (hc : convTo p.ty v = none) (hd : p.dims = []) :
    bindParams [p] [l] env s = .ok ((p.name, l) :: env) s := by
  simp only [bindParams, convCell, bind_eq, M.bind, load, hv, hc, hd, pure, M.pure, List.isEmpty_nil, if_true]

/-! ### ranges and slices

The evaluator's rules for `[a .. b]`, `x[a .. b]`, indexing and iteration, stated against the index arithmetic of
C12 (`Never.Idx.rangePos`, `rangeLen`, `sliceRange`; `Props/C12.lean` proves `range_denotation`, `slice_of_slice`,
`range_deref_exact` about the C functions' model).  "No overflow" hypotheses exclude the places where the C code's
`int` additions `from ± index` leave `int`. -/

/-- **Range bounds right to left; a range holds the bound CELLS.**  `[a .. b]`: `b` is evaluated first, then `a` in the
state `b` leaves; the range object refers to the very cells the two expressions evaluated to (nothing is copied: a
later assignment to a variable used as a bound changes the range). -/
theorem eval_order_range_bounds (n : Nat) (ctx : Ctx) (env : Env) (ea eb : Expr) (s s1 s2 : St) (la lb : Loc)
    (hb : evalE (n + 1) ctx env eb s = .ok lb s1) (ha : evalE (n + 2) ctx env ea s1 = .ok la s2) :
    evalE (n + 4) ctx env (.range [ea, eb]) s =
      (do let o ← alloc (.rngObj #[la, lb]); alloc (.rng (some o))) s2 := by
  simp only [evalE, evalArgs, bind_eq, M.bind, hb, ha, pure, M.pure]

/-- a fault in the `to` bound: the `from` bound is never evaluated -/
theorem eval_order_range_fault_right (n : Nat) (ctx : Ctx) (env : Env) (ea eb : Expr) (s s1 : St) (ex : Exc)
    (hb : evalE (n + 1) ctx env eb s = .exc ex s1) :
    evalE (n + 4) ctx env (.range [ea, eb]) s = .exc ex s1 := by
  simp only [evalE, evalArgs, bind_eq, M.bind, hb, pure, M.pure]

/-- `x[a .. b]`: the sliced expression `x` FIRST, then the bounds (right to left): a fault in `x` leaves the bounds
unevaluated, a fault in the bounds happens in the state `x` left -/
theorem eval_order_slice (n : Nat) (ctx : Ctx) (env : Env) (x : Expr) (bounds : List Expr) (s s1 s2 : St) (ex : Exc) (lx : Loc) :
    (evalE n ctx env x s = .exc ex s1 → evalE (n + 1) ctx env (.slice x bounds) s = .exc ex s1) ∧
    (evalE n ctx env x s = .ok lx s1 → evalArgs n ctx env bounds s1 = .exc ex s2 →
      evalE (n + 1) ctx env (.slice x bounds) s = .exc ex s2) := by
  constructor
  · intro h; simp only [evalE, bind_eq, M.bind, h]
  · intro h1 h2; simp only [evalE, bind_eq, M.bind, h1, h2]

/-- **A range sees an assignment to a variable used as its bound.**  The range object `o` holds the cells `lf`, `lt`;
after a store of `v` into `lt` (an assignment to the variable that was the `to` bound) its bounds are `(a, v)`. -/
theorem range_sees_assignment_to_bound (s : St) (o lf lt : Loc) (a b v : Int32)
    (ho : s.mem[o]? = some (.rngObj #[lf, lt])) (hf : s.mem[lf]? = some (.int a)) (ht : s.mem[lt]? = some (.int b))
    (hne : lf ≠ lt) :
    ∀ s', store lt (.int v) s = .ok () s' → rngBounds o s' = .ok [(a.toInt, v.toInt)] s' := by
  intro s' hs
  simp only [store] at hs
  injection hs with _ h2
  have hlt : lt < s.mem.size := by
    cases h : s.mem[lt]? with
    | none => rw [h] at ht; cases ht
    | some x => exact (Array.getElem?_eq_some_iff.mp h).1
  have hol : o ≠ lt := by
    intro heq; rw [heq, ht] at ho; cases ho
  apply rngBounds_ok s' o lf lt a v
  · rw [← h2]; simp only [Array.setIfInBounds, hlt, dite_true, Array.getElem?_set, Ne.symm hol, if_false]; exact ho
  · rw [← h2]; simp only [Array.setIfInBounds, hlt, dite_true, Array.getElem?_set, Ne.symm hne, if_false]; exact hf
  · rw [← h2]; simp [Array.setIfInBounds, hlt]

/-- **`r[i]` on a range is C12's position `i`.**  For the range object `o` with bound cells holding `a`, `b`, indexing
with `i` (no `int` overflow in `a ± i`): when `0 ≤ i < rangeLen a b` the result is a fresh 1-element int array holding
`rangePos a b i` — exactly `Idx.rangeDerefIndex` / `Idx.range_deref_exact` of C12 — and `index_out_of_bounds`
otherwise (negative index or beyond `to`); the store is otherwise unchanged. -/
theorem range_index_denotation (s : St) (o lf lt : Loc) (a b : Int32) (i : Int)
    (ho : s.mem[o]? = some (.rngObj #[lf, lt])) (hf : s.mem[lf]? = some (.int a)) (ht : s.mem[lt]? = some (.int b))
    (hov : inInt32 (a.toInt + i) = true ∧ inInt32 (a.toInt - i) = true) :
    rangeDeref (some o) [i] s =
      if 0 ≤ i ∧ i < (Idx.rangeLen a.toInt b.toInt : Int) then
        .ok (s.mem.size + 2) { s with mem := ((s.mem.push (.int (Int32.ofInt (Idx.rangePos a.toInt b.toInt i)))).push
          (.arrObj [1] #[s.mem.size])).push (.arr (some (s.mem.size + 1))) }
      else .exc .index_out_of_bounds { s with raised := .index_out_of_bounds :: s.raised } := by
  simp only [rangeDeref, bind_eq, M.bind, rngBounds_ok s o lf lt a b ho hf ht, rangePositions, sliceRangeM_single _ _ _ hov]
  by_cases hc : 0 ≤ i ∧ i < (Idx.rangeLen a.toInt b.toInt : Int)
  · simp only [if_pos hc, pure, M.pure, allocInts, bind_eq, M.bind, alloc, List.length_cons, List.length_nil, Array.size_push]
  · simp only [if_neg hc]
    rfl

/-- the same statement through C12's model of `vm_execute_range_deref`: the evaluator succeeds exactly when
`Idx.rangeDerefIndex` does, with its result -/
theorem range_index_matches_idx (s : St) (o lf lt : Loc) (a b : Int32) (i : Int)
    (ho : s.mem[o]? = some (.rngObj #[lf, lt])) (hf : s.mem[lf]? = some (.int a)) (ht : s.mem[lt]? = some (.int b))
    (hov : inInt32 (a.toInt + i) = true ∧ inInt32 (a.toInt - i) = true) (r : Int) :
    Idx.rangeDerefIndex a.toInt b.toInt i = .ok r ↔
      ∃ l s', rangeDeref (some o) [i] s = .ok l s' ∧ s'.mem[s.mem.size]? = some (.int (Int32.ofInt r)) ∧
        r = Idx.rangePos a.toInt b.toInt i := by
  rw [Idx.range_deref_exact, range_index_denotation s o lf lt a b i ho hf ht hov]
  constructor
  · rintro ⟨h0, h1, h2⟩
    refine ⟨_, _, by rw [if_pos ⟨h0, h1⟩], ?_, h2⟩
    subst h2
    simp [Array.getElem?_push]
    omega
  · rintro ⟨l, s', h, _, h2⟩
    by_cases hc : 0 ≤ i ∧ i < (Idx.rangeLen a.toInt b.toInt : Int)
    · exact ⟨hc.1, hc.2, h2⟩
    · rw [if_neg hc] at h; cases h

/-- **Slicing an array does not copy and does not check.**  `arr[a .. b]` on a non-nil array builds a slice that refers to
the array OBJECT `ao` itself and to the range object of the bounds, whatever the bounds are (`SLICE_ARRAY` has no bounds
check; the elements are checked when they are used). -/
theorem slice_of_array_shares_object (s : St) (ao rb : Loc) :
    sliceOf (.arr (some ao)) rb s =
      .ok (s.mem.size + 1) { s with mem := (s.mem.push (.slcObj ao rb)).push (.slc (some s.mem.size)) } := by
  simp only [sliceOf, bind_eq, M.bind, alloc, Array.size_push]

/-- **A slice aliases its array.**  Element `i` of the slice `arr[a .. b]` (slice object `so` over array object `ao`, bound
cells holding `a`, `b`; no `int` overflow in `a ± i`) IS the cell of element `rangePos a b i` of the array: `s[i]` and
`arr[rangePos a b i]` evaluate to the same location in the same state — so a store through the array is read through
the slice and a store through the slice is read through the array; outside `0 ≤ i < rangeLen a b` the access raises
`index_out_of_bounds`; a position that is not an element of the array raises it inside `arrDeref`. -/
theorem slice_aliases_array (s : St) (so ao ro lf lt : Loc) (a b : Int32) (i : Int)
    (hs : s.mem[so]? = some (.slcObj ao ro)) (hr : s.mem[ro]? = some (.rngObj #[lf, lt]))
    (hf : s.mem[lf]? = some (.int a)) (ht : s.mem[lt]? = some (.int b))
    (hov : inInt32 (a.toInt + i) = true ∧ inInt32 (a.toInt - i) = true) :
    sliceDeref (some so) [i] s =
      if 0 ≤ i ∧ i < (Idx.rangeLen a.toInt b.toInt : Int) then arrDeref (.arr (some ao)) [Idx.rangePos a.toInt b.toInt i] s
      else .exc .index_out_of_bounds { s with raised := .index_out_of_bounds :: s.raised } := by
  by_cases hneg : i < 0
  · have h1 : ¬ (0 ≤ i ∧ i < (Idx.rangeLen a.toInt b.toInt : Int)) := by omega
    simp only [sliceDeref, List.any_cons, List.any_nil, Bool.or_false, hneg, decide_true, if_true, h1, if_false]
    rfl
  · simp only [sliceDeref, List.any_cons, List.any_nil, Bool.or_false, hneg, decide_false, Bool.false_eq_true, if_false,
      bind_eq, M.bind, load_ok so s _ hs, rngBounds_ok s ro lf lt a b hr hf ht, rangePositions, sliceRangeM_single _ _ _ hov]
    by_cases hc : 0 ≤ i ∧ i < (Idx.rangeLen a.toInt b.toInt : Int)
    · simp only [if_pos hc, pure, M.pure]
    · simp only [if_neg hc]
      rfl

/-- … in the evaluator's own terms: an index expression on an array reference and one on a slice of it denote the same
cell, hence `assignment_seen_through_alias` applies to them (kernel-evaluated instances below) -/
theorem slice_element_is_array_element (n : Nat) (ctx : Ctx) (env : Env) (xs xa : Name) (ls la : Loc) (s : St)
    (so ao ro lf lt : Loc) (a b : Int32) (i : Int32)
    (hxs : lookup xs env = some ls) (hxa : lookup xa env = some la)
    (hls : s.mem[ls]? = some (.slc (some so))) (hla : s.mem[la]? = some (.arr (some ao)))
    (hs : s.mem[so]? = some (.slcObj ao ro)) (hr : s.mem[ro]? = some (.rngObj #[lf, lt]))
    (hf : s.mem[lf]? = some (.int a)) (ht : s.mem[lt]? = some (.int b))
    (hov : inInt32 (a.toInt + i.toInt) = true ∧ inInt32 (a.toInt - i.toInt) = true)
    (hin : 0 ≤ i.toInt ∧ i.toInt < (Idx.rangeLen a.toInt b.toInt : Int))
    (li lj : Loc)
    (hi : s.mem[li]? = some (.int i)) (hj : s.mem[lj]? = some (.int (Int32.ofInt (Idx.rangePos a.toInt b.toInt i.toInt))))
    (hpos : (Int32.ofInt (Idx.rangePos a.toInt b.toInt i.toInt)).toInt = Idx.rangePos a.toInt b.toInt i.toInt)
    (xi xj : Name) (hxi : lookup xi env = some li) (hxj : lookup xj env = some lj) :
    evalE (n + 3) ctx env (.index (.var xs) [.var xi]) s = evalE (n + 3) ctx env (.index (.var xa) [.var xj]) s := by
  simp only [evalE, evalArgs, hxs, hxa, hxi, hxj, bind_eq, M.bind, pure, M.pure, getInts, getInt, load_ok _ s _ hi,
    load_ok _ s _ hj, load_ok _ s _ hls, load_ok _ s _ hla, hpos]
  rw [slice_aliases_array s so ao ro lf lt a b i.toInt hs hr hf ht hov, if_pos hin]

/-- **A loop over `[a .. b]` visits C12's positions in order.**  While nothing assigns the `to` cell, the counter of
`for (x in [a..b])` / of a generator `x in [a..b]` (start at `from`, one step towards `to`, stop after `to` — `inRange`,
`stepRange` of the evaluator's loops) takes exactly the values `rangePos a b 0, …, rangePos a b (rangeLen a b − 1)`:
ascending, descending and one-element ranges alike (`Idx.range_denotation` is about these positions). -/
theorem range_loop_visits_positions (a b : Int) (fuel : Nat) (hf : Idx.rangeLen a b < fuel) :
    loopVals (decide (a < b)) b fuel a = (List.range (Idx.rangeLen a b)).map (fun (k : Nat) => Idx.rangePos a b k) :=
  loopVals_positions a b fuel hf

/-- one iteration of the evaluator's loop over a range is one step of `loopVals`: with the `to` cell holding `t`, the
loop at counter `cur` either ends (fresh int 0) or binds `x` to a FRESH cell holding `cur`, runs the body, and continues
at `stepRange asc cur` -/
theorem for_in_range_step (f : Nat) (ctx : Ctx) (env : Env) (x : Name) (cur : Int) (asc : Bool) (lt : Loc) (t : Int32)
    (body : Expr) (s : St) (ht : s.mem[lt]? = some (.int t)) :
    evalForRng (f + 1) ctx env x none cur asc lt body s =
      if inRange asc cur t.toInt then
        (do let l ← alloc (.int (Int32.ofInt cur))
            let _ ← evalE f ctx ((x, l) :: env) body
            if inInt32 (stepRange asc cur) then evalForRng f ctx env x none (stepRange asc cur) asc lt body
            else stopM (.crash "range counter overflows int")) s
      else alloc (.int 0) s := by
  simp only [evalForRng, bind_eq, M.bind, getInt_ok lt s t ht, rngElem]
  split <;> rfl

/-- **`[ x | x in [a .. b] ]` is the array of the range's positions.**  The generator loop of a comprehension over a
range (counter at `from` = `a`, the `to` cell `lt` holding `b`, body `x`, element type int, array object `o` under
construction with elements `elems`), given enough fuel and no `int` overflow of the counter, ends normally; it
allocates exactly `rangeLen a b` fresh int cells holding `rangePos a b 0, …, rangePos a b (rangeLen a b − 1)` — C12's
denotation of the range, ascending, descending or one-element — appends them in this order to the array object, and
changes nothing else (no output). -/
theorem comprehension_over_range_denotation (ctx : Ctx) (env : Env) (x : Name) (lt o : Loc) (a : Int) (b : Int32) (f : Nat)
    (s : St) (d : List Nat) (elems : Array Loc)
    (ht : s.mem[lt]? = some (.int b)) (ho : s.mem[o]? = some (.arrObj d elems)) (hne : lt ≠ o)
    (hov : ∀ k : Nat, k < Idx.rangeLen a b.toInt →
      inInt32 (stepRange (decide (a < b.toInt)) (Idx.rangePos a b.toInt k)) = true)
    (hf : Idx.rangeLen a b.toInt + 3 ≤ f) :
    ∃ s', evalGenRng f ctx env x none a (decide (a < b.toInt)) lt [] (.var x) .int o s = .ok () s' ∧
      s'.mem.size = s.mem.size + Idx.rangeLen a b.toInt ∧
      s'.mem[o]? = some (.arrObj [elems.size + Idx.rangeLen a b.toInt]
        (elems ++ ((List.range (Idx.rangeLen a b.toInt)).map (fun k => s.mem.size + k)).toArray)) ∧
      (∀ k, k < Idx.rangeLen a b.toInt →
        s'.mem[s.mem.size + k]? = some (.int (Int32.ofInt (Idx.rangePos a b.toInt k)))) ∧
      (∀ l, l < s.mem.size → l ≠ o → s'.mem[l]? = s.mem[l]?) ∧ s'.out = s.out := by
  have hlen : ((List.range (Idx.rangeLen a b.toInt)).map (fun (k : Nat) => Idx.rangePos a b.toInt k)).length
      = Idx.rangeLen a b.toInt := by simp
  have hpos := loopVals_positions a b.toInt (Idx.rangeLen a b.toInt + 1) (by omega)
  have hne0 : (List.range (Idx.rangeLen a b.toInt)).map (fun (k : Nat) => Idx.rangePos a b.toInt k) ≠ [] := by
    intro h
    have := congrArg List.length h
    simp [Idx.rangeLen] at this
  have hrun := genRng_var_run ctx env x (decide (a < b.toInt)) lt o b hne
    ((List.range (Idx.rangeLen a b.toInt)).map (fun (k : Nat) => Idx.rangePos a b.toInt k)) f a s d elems
    (by rw [hlen]; exact hpos.symm)
    (by
      intro v hv
      simp only [List.mem_map, List.mem_range] at hv
      obtain ⟨k, hk, rfl⟩ := hv
      exact hov k hk)
    ht ho (by rw [hlen]; exact hf)
  obtain ⟨g1, g2, g3, g4, g5⟩ := genFold_spec o
    ((List.range (Idx.rangeLen a b.toInt)).map (fun (k : Nat) => Idx.rangePos a b.toInt k)) s d elems ho
  refine ⟨_, hrun, ?_, ?_, ?_, g4, g5⟩
  · rw [g1, hlen]
  · rw [g2, hlen, if_neg hne0]
  · intro k hk
    have := g3 k (by rw [hlen]; exact hk)
    rw [this]
    simp

/-- **Extent and bound names are references, evaluated where they are used.**  Calling `f(p[n1, …])` (array, range or
slice parameter with names) looks at NOTHING of the argument: each name is bound to a fresh cell holding the reference
`(cell of p, position of the name)` — so a nil argument is accepted by the call. -/
theorem parameter_names_are_references (p : Param) (l : Loc) (n1 n2 : Name) (env : Env) (s : St) (v : Val)
    (hv : s.mem[l]? = some v) (hc : convTo p.ty v = none) (hd : p.dims = [n1, n2]) :
    bindParams [p] [l] env s =
      .ok ((n2, s.mem.size + 1) :: (n1, s.mem.size) :: (p.name, l) :: env)
        { s with mem := (s.mem.push (.dimRef l 0)).push (.dimRef l 1) } := by
  simp only [bindParams, convCell, bindDimsOf, bindDimRefs, bind_eq, M.bind, load, hv, hc, hd, pure, M.pure,
    List.isEmpty_cons, Bool.false_eq_true, if_false, alloc, Array.size_push]

/-- a use of an extent / bound name: the reference its cell holds is followed where the name is used -/
theorem dimVar_eval (n : Nat) (ctx : Ctx) (env : Env) (x : Name) (c p : Loc) (k : Nat) (s : St)
    (hx : lookup x env = some c) (hc : s.mem[c]? = some (.dimRef p k)) :
    evalE (n + 1) ctx env (.dimVar x) s = dimValue p k s := by
  simp only [evalE, hx, bind_eq, M.bind, load, hc]

/-- **A bound name of a range parameter is the range's own cell.**  In `func f(r[lo .. hi] : range)`, a use of `hi`
(bound to the reference `(cell of r, 1)`) evaluates — at that moment — to the `to` CELL of the range `r` holds: no copy,
no allocation; an assignment through a variable used as the bound is seen, and a nil `r` raises `nil_pointer` HERE. -/
theorem range_bound_name_is_the_bound_cell (n : Nat) (ctx : Ctx) (env : Env) (x : Name) (c p o : Loc) (k : Nat)
    (bs : Array Loc) (b : Loc) (s : St)
    (hx : lookup x env = some c) (hc : s.mem[c]? = some (.dimRef p k))
    (hp : s.mem[p]? = some (.rng (some o))) (ho : s.mem[o]? = some (.rngObj bs)) (hb : bs[k]? = some b) :
    evalE (n + 1) ctx env (.dimVar x) s = .ok b s := by
  simp only [dimVar_eval n ctx env x c p k s hx hc, dimValue, bind_eq, M.bind, load, hp, ho, hb]; rfl

/-- **An extent name is read from the array the parameter holds when the name is used** (a fresh int), and the bound
names of a slice parameter `s[f .. t] : T` are fresh ints 0 and |to − from| (`ID_DIM_SLICE`) -/
theorem extent_name_is_read_at_use (n : Nat) (ctx : Ctx) (env : Env) (x : Name) (c p o : Loc) (k : Nat)
    (dims : List Nat) (elems : Array Loc) (e : Nat) (s : St)
    (hx : lookup x env = some c) (hc : s.mem[c]? = some (.dimRef p k))
    (hp : s.mem[p]? = some (.arr (some o))) (ho : s.mem[o]? = some (.arrObj dims elems)) (he : dims[k]? = some e) :
    evalE (n + 1) ctx env (.dimVar x) s = alloc (.int (Int32.ofNat e)) s := by
  simp only [dimVar_eval n ctx env x c p k s hx hc, dimValue, bind_eq, M.bind, load, hp, ho, he]

theorem slice_bound_names (n : Nat) (ctx : Ctx) (env : Env) (x : Name) (c p so ao ro lf lt : Loc) (a b : Int32) (s : St)
    (hx : lookup x env = some c) (hp : s.mem[p]? = some (.slc (some so))) (hs : s.mem[so]? = some (.slcObj ao ro))
    (hr : s.mem[ro]? = some (.rngObj #[lf, lt])) (hf : s.mem[lf]? = some (.int a)) (ht : s.mem[lt]? = some (.int b)) :
    (s.mem[c]? = some (.dimRef p 0) → evalE (n + 1) ctx env (.dimVar x) s = alloc (.int 0) s) ∧
    (s.mem[c]? = some (.dimRef p 1) → evalE (n + 1) ctx env (.dimVar x) s =
      alloc (.int (Int32.ofInt (if b.toInt > a.toInt then b.toInt - a.toInt else a.toInt - b.toInt))) s) := by
  constructor
  · intro hc
    simp only [dimVar_eval n ctx env x c p 0 s hx hc, dimValue, bind_eq, M.bind, load, hp, hs]; rfl
  · intro hc
    have h1 : (1 : Nat) % 2 = 0 ↔ False := by decide
    simp only [dimVar_eval n ctx env x c p 1 s hx hc, dimValue, bind_eq, M.bind, load, hp, hs, h1, if_false,
      rngBounds_ok s ro lf lt a b hr hf ht]
    rfl

/-- **An extent name ignores shadowing of the parameter's NAME.**  `D` of `a[D]` holds a reference to the parameter's
CELL: whatever is bound later under other names — in particular a `let a = …`, a match binding or a loop variable that
shadows the parameter's own name `a` — a use of `D` evaluates exactly as before (and, by `extent_name_is_read_at_use`,
reads the extent of the array in that cell). -/
theorem extent_name_ignores_shadowing_of_the_parameter_name (n : Nat) (ctx : Ctx) (env : Env) (x pn : Name) (l2 : Loc)
    (s : St) (hne : x ≠ pn) :
    evalE (n + 1) ctx ((pn, l2) :: env) (.dimVar x) s = evalE (n + 1) ctx env (.dimVar x) s := by
  simp only [evalE, lookup, hne, if_false]

/-- **A nil array, range or slice raises `nil_pointer` where one of its names is used** (not at the call; a callee that
never uses the names runs normally) -/
theorem name_of_nil_parameter_raises (n : Nat) (ctx : Ctx) (env : Env) (x : Name) (c p : Loc) (k : Nat) (s : St) (v : Val)
    (hx : lookup x env = some c) (hc : s.mem[c]? = some (.dimRef p k)) (hp : s.mem[p]? = some v)
    (hv : v = .arr none ∨ v = .rng none ∨ v = .slc none) :
    evalE (n + 1) ctx env (.dimVar x) s = throwE .nil_pointer s := by
  rw [dimVar_eval n ctx env x c p k s hx hc]
  rcases hv with rfl | rfl | rfl <;> simp only [dimValue, bind_eq, M.bind, load, hp]

/-- a loop or a comprehension over a nil array raises `nil_pointer` (`ID_DIM_LOCAL` since repo fix 7100a94) -/
theorem for_in_nil_array_raises (f : Nat) (ctx : Ctx) (env : Env) (x : Name) (lc : Loc) (i : Nat) (b : Expr) (s : St)
    (qs : List Qual) (body : Expr) (ty : Ty) (o : Loc) (h : s.mem[lc]? = some (.arr none)) :
    evalForIn (f + 1) ctx env x lc i b s = throwE .nil_pointer s ∧
    evalGen (f + 1) ctx env x lc i qs body ty o s = throwE .nil_pointer s := by
  constructor <;> simp only [evalForIn, evalGen, bind_eq, M.bind, load, h]

/-! ### element-wise array arithmetic -/

/-- **`a + b`, `a - b` on arrays: shape conformance, then element by element.**  For two non-nil arrays with extents `d1`,
`d2`: exactly when C12's guard `Idx.canAdd` holds — i.e. (`Idx.shape_conformance`) same number of dimensions and the
same extents, `d1 = d2` — the result is a fresh array of that shape whose cells hold `binop op` of the corresponding
elements, in order; otherwise `wrong_array_size` is raised and nothing is allocated. -/
theorem array_add_shape_conformance (op : BinOp) (s : St) (o1 o2 : Loc) (d1 d2 : List Nat) (e1 e2 : Array Loc)
    (h1 : s.mem[o1]? = some (.arrObj d1 e1)) (h2 : s.mem[o2]? = some (.arrObj d2 e2)) :
    (Idx.canAdd (extDv d1) (extDv d2) = true ↔ d1 = d2) ∧
    arrZip op (some o1) (some o2) s =
      if d1 = d2 then
        (do let v1 ← loadVals e1.toList
            let v2 ← loadVals e2.toList
            let cells ← allocRes (List.zipWith (binop op) v1 v2)
            newArr d2 cells) s
      else throwE .wrong_array_size s := by
  refine ⟨canAdd_extDv d1 d2, ?_⟩
  by_cases h : d1 = d2
  · simp only [arrZip, arrObjOf, bind_eq, M.bind, load, h1, h2, pure, M.pure, (canAdd_extDv d1 d2).mpr h, if_true, if_pos h]
  · have hc : Idx.canAdd (extDv d1) (extDv d2) = false := by
      cases hx : Idx.canAdd (extDv d1) (extDv d2)
      · rfl
      · exact absurd ((canAdd_extDv d1 d2).mp hx) h
    simp only [arrZip, arrObjOf, bind_eq, M.bind, load, h1, h2, pure, M.pure, hc, Bool.false_eq_true, if_false, if_neg h]

/-- the cells of an element-wise result: when every element operation yields a value, the new cells are consecutive
fresh cells holding those values in order (nothing else changes) -/
theorem elementwise_result_cells (vs : List Val) (s : St) :
    allocRes (vs.map OpRes.val) s =
      .ok ((List.range vs.length).map (fun k => s.mem.size + k)) { s with mem := s.mem ++ vs.toArray } :=
  allocRes_vals vs s

/-- **`a * b` on arrays is the matrix product, guarded by C12's `Idx.canMult`**: both 2-dimensional with
columns(a) = rows(b) (`Idx.shape_conformance`), result `rows(a) × columns(b)` with entries `Σ_k a[i,k] * b[k,j]` computed in
the element type starting from 0 (`matEntries`); any other pair of shapes raises `wrong_array_size`. -/
theorem array_mul_shape_conformance (s : St) (o1 o2 : Loc) (d1 d2 : List Nat) (e1 e2 : Array Loc)
    (h1 : s.mem[o1]? = some (.arrObj d1 e1)) (h2 : s.mem[o2]? = some (.arrObj d2 e2)) :
    (∀ r1 c1 c2, d1 = [r1, c1] → d2 = [c1, c2] →
      matMul (some o1) (some o2) s =
        (do let v1 ← loadVals e1.toList
            let v2 ← loadVals e2.toList
            let cells ← allocRes (matEntries r1 c1 c2 v1 v2)
            newArr [r1, c2] cells) s) ∧
    ((¬ ∃ r1 c1 c2, d1 = [r1, c1] ∧ d2 = [c1, c2]) → matMul (some o1) (some o2) s = throwE .wrong_array_size s) := by
  constructor
  · rintro r1 c1 c2 rfl rfl
    have hc := (canMult_extDv [r1, c1] [c1, c2]).mpr ⟨r1, c1, c2, rfl, rfl⟩
    simp only [matMul, arrObjOf, bind_eq, M.bind, load, h1, h2, pure, M.pure, hc, if_true]
  · intro hn
    have hc : Idx.canMult (extDv d1) (extDv d2) = false := by
      cases hx : Idx.canMult (extDv d1) (extDv d2)
      · rfl
      · exact absurd ((canMult_extDv d1 d2).mp hx) hn
    simp only [matMul, arrObjOf, bind_eq, M.bind, load, h1, h2, pure, M.pure, hc, Bool.false_eq_true, if_false]

/-- a nil operand of array arithmetic raises `nil_pointer` (before any shape is looked at) -/
theorem array_arith_nil (op : BinOp) (a : Option Loc) (f : Val → OpRes) (s : St) :
    arrZip op none a s = throwE .nil_pointer s ∧ arrZip op a none s = throwE .nil_pointer s ∧
    matMul none a s = throwE .nil_pointer s ∧ matMul a none s = throwE .nil_pointer s ∧
    arrMap f none s = throwE .nil_pointer s := by
  cases a <;> simp [arrZip, matMul, arrMap]

/-! ### the pipe operator -/

/-- **`x |> f(args)` is `f(x, args)`.**  The arguments are evaluated first (right to left), THEN the piped expression,
then the function expression; a piped value that is not a tuple becomes the FIRST argument (its cell is passed, as in a
call). -/
theorem eval_order_pipe (n : Nat) (ctx : Ctx) (env : Env) (l fe : Expr) (args : List Expr)
    (s s1 s2 s3 : St) (ls : List Loc) (ll lf : Loc) (v : Val) (fid : Nat) (cells : List Loc)
    (hargs : evalArgs n ctx env args s = .ok ls s1) (hl : evalE n ctx env l s1 = .ok ll s2)
    (hv : s2.mem[ll]? = some v) (hnt : ∀ r, v ≠ .rcd r)
    (hf : evalE n ctx env fe s2 = .ok lf s3) (hclo : s3.mem[lf]? = some (.clo (some (fid, cells)))) :
    evalE (n + 1) ctx env (.pipe l fe args) s = callClo n ctx fid cells (ll :: ls) s3 := by
  have hp : pipeArgs ll s2 = .ok [ll] s2 := by
    simp only [pipeArgs, bind_eq, M.bind, load, hv]
    cases v <;> first | rfl | exact absurd rfl (hnt _)
  simp only [evalE, bind_eq, M.bind, hargs, hl, hp, hf, load, hclo, List.singleton_append]

/-- **A piped tuple is unpacked**: `(a, b) |> f(args)` is `f(a, b, args)` — the component CELLS of the tuple become the
leading arguments (no copy). -/
theorem pipe_unpacks_tuple (n : Nat) (ctx : Ctx) (env : Env) (l fe : Expr) (args : List Expr)
    (s s1 s2 s3 : St) (ls : List Loc) (ll lf o : Loc) (fields : Array Loc) (fid : Nat) (cells : List Loc)
    (hargs : evalArgs n ctx env args s = .ok ls s1) (hl : evalE n ctx env l s1 = .ok ll s2)
    (hv : s2.mem[ll]? = some (.rcd (some o))) (ho : s2.mem[o]? = some (.recObj "" fields))
    (hf : evalE n ctx env fe s2 = .ok lf s3) (hclo : s3.mem[lf]? = some (.clo (some (fid, cells)))) :
    evalE (n + 1) ctx env (.pipe l fe args) s = callClo n ctx fid cells (fields.toList ++ ls) s3 := by
  have hp : pipeArgs ll s2 = .ok fields.toList s2 := by
    simp only [pipeArgs, bind_eq, M.bind, load, hv, ho, if_true]; rfl
  simp only [evalE, bind_eq, M.bind, hargs, hl, hp, hf, load, hclo]

/-- a fault in the arguments: neither the piped expression nor the function expression is evaluated; a fault in the
piped expression happens after the arguments -/
theorem eval_order_pipe_fault (n : Nat) (ctx : Ctx) (env : Env) (l fe : Expr) (args : List Expr) (s s1 s2 : St) (ex : Exc)
    (ls : List Loc) :
    (evalArgs n ctx env args s = .exc ex s1 → evalE (n + 1) ctx env (.pipe l fe args) s = .exc ex s1) ∧
    (evalArgs n ctx env args s = .ok ls s1 → evalE n ctx env l s1 = .exc ex s2 →
      evalE (n + 1) ctx env (.pipe l fe args) s = .exc ex s2) := by
  constructor
  · intro h; simp only [evalE, bind_eq, M.bind, h]
  · intro h1 h2; simp only [evalE, bind_eq, M.bind, h1, h2]

/-! ### modules (Model/SrcMod.lean: a separate layer — units are elaborated into one core program, `eval` runs it) -/

/-- **A module is loaded once.**  However many units `use` it (directly, through several paths, repeatedly), a unit
occurs once in the load order, so its items — and the side effects of its initialisers — occur once in the program. -/
theorem module_loaded_once (us : List Mod.Unit) (main : Mod.Unit) : (Mod.loadOrder us main).Nodup :=
  Mod.loadOrder_nodup us main

/-- **A qualified name resolves in its unit.**  Elaboration gives the top-level items of unit `m` exactly the names `q m x`
(`x` a top-level name of the unit as written, same order), by the LEXICAL renaming of C08 (`qualItems` is `rnItems`), so uses
inside the unit follow their binders.  With a qualification that keeps units apart (`q m1 x = q m2 y → m1 = m2 ∧ x = y`; `m.x`
for module names without dots), `q m1 x` is bound by unit `m1` iff `m1` declares `x`, and NEVER by another unit `m2`, whatever
same-named items `m2` declares. -/
theorem qualified_name_resolves_in_its_unit (q : Name → Name → Name)
    (hq : ∀ m1 x m2 y, q m1 x = q m2 y → m1 = m2 ∧ x = y) (m1 m2 : Name) (items1 items2 : List Item) (x : Name) :
    Mod.itemBinders (Mod.qualItems q m1 items1) = (Mod.itemBinders items1).map (q m1) ∧
    (q m1 x ∈ Mod.itemBinders (Mod.qualItems q m1 items1) ↔ x ∈ Mod.itemBinders items1) ∧
    (m1 ≠ m2 → q m1 x ∉ Mod.itemBinders (Mod.qualItems q m2 items2)) := by
  refine ⟨Mod.itemBinders_qualItems q m1 items1, ?_, ?_⟩
  · rw [Mod.itemBinders_qualItems, List.mem_map]
    constructor
    · rintro ⟨y, hy, h⟩
      rw [(hq _ _ _ _ h).2] at hy; exact hy
    · intro h; exact ⟨x, h, rfl⟩
  · intro hne hmem
    rw [Mod.itemBinders_qualItems, List.mem_map] at hmem
    obtain ⟨y, _, h⟩ := hmem
    exact hne (hq _ _ _ _ h).1.symm

/-- qualification IS the lexical renaming of C08 (`rnItems`, the function `eval_alpha` is about) with the renaming that maps the
unit's top-level binders — and, by resolution, their uses inside the unit, through nested functions and shadowing — to `q m x` and
leaves every other binder alone: unit-local names are handled by the theory of renamings, not by string search -/
theorem qualification_is_lexical_renaming (q : Name → Name → Name) (m : Name) (items : List Item) :
    Mod.qualItems q m items = rnItems (Mod.qualNu q m (Mod.modDepths 0 items)) [] items := rfl

/-! ### non-vacuity: closed programs evaluated by the kernel -/

section Examples

private def pP : Func := .mk 0 "p" [{ name := "x", ty := .int }] .int (.seq [.expr (.builtin .print [.var "x"])]) []
private def fF : Func := .mk 1 "f" [{ name := "a", ty := .int }, { name := "b", ty := .int }] .int
  (.seq [.expr (.builtin .print [.lit (.int 0)]), .expr (.bin .add (.var "a") (.var "b"))]) []
private def mk (body : List Item) : Prog :=
  { recs := [], enums := [], funcs := [pP, fF, .mk 2 "main" [] .int (.seq body) []] }
private def p (k : Int) : Expr := .call (.var "p") [.lit (.int k)]

/-- `f(p(1), p(2))` prints 2, 1, then the body's 0; returns 3 -/
example : (eval (mk [.expr (.call (.var "f") [p 1, p 2])]) [] 30).out = [50, 13, 10, 49, 13, 10, 48, 13, 10] := by decide +kernel
example : (eval (mk [.expr (.call (.var "f") [p 1, p 2])]) [] 30).int? = some 3 := by decide +kernel
/-- `p(1) + p(2) * p(3)` prints 1, 2, 3 -/
example : (eval (mk [.expr (.bin .add (p 1) (.bin .mul (p 2) (p 3)))]) [] 30).out = [49, 13, 10, 50, 13, 10, 51, 13, 10] := by decide +kernel
/-- `p(0) != 0 && p(1) != 0` prints only 0; `p(2) != 0 || p(3) != 0` prints only 2 -/
example : (eval (mk [.expr (.and (.bin .ne (p 0) (.lit (.int 0))) (.bin .ne (p 1) (.lit (.int 0))))]) [] 30).out = [48, 13, 10] := by decide +kernel
example : (eval (mk [.expr (.or (.bin .ne (p 2) (.lit (.int 0))) (.bin .ne (p 3) (.lit (.int 0))))]) [] 30).out = [50, 13, 10] := by decide +kernel
/-- `var a = 1; let b = a; a = 5; b` is 5 -/
example : (eval (mk [.bind true "a" (.lit (.int 1)), .bind false "b" (.var "a"), .expr (.assign (.var "a") (.lit (.int 5))),
    .expr (.var "b")]) [] 30).int? = some 5 := by decide +kernel
/-- `f(p(1), 10 / z)` with `z = 0`: the fault in the RIGHT argument comes first, nothing is printed -/
example : (eval (mk [.bind false "z" (.lit (.int 0)), .expr (.call (.var "f") [p 1, .bin .div (.lit (.int 10)) (.var "z")])]) [] 30).exc?
    = some .division_by_zero := by decide +kernel
example : (eval (mk [.bind false "z" (.lit (.int 0)), .expr (.call (.var "f") [p 1, .bin .div (.lit (.int 10)) (.var "z")])]) [] 30).out
    = [] := by decide +kernel
/-- out of fuel is reported as such, and more fuel gives the answer -/
example : (eval (mk [.expr (p 7)]) [] 3).isOutOfFuel := by decide +kernel
example : (eval (mk [.expr (p 7)]) [] 30).int? = some 7 := by decide +kernel

/-! the pipe operator -/

/-- `p(1) |> f(p(2))` prints 2, 1, then the body's 0, returns 3 — exactly `f(p(1), p(2))` (`eval_order_pipe`) -/
example : (eval (mk [.expr (.pipe (p 1) (.var "f") [p 2])]) [] 30).out = [50, 13, 10, 49, 13, 10, 48, 13, 10] := by decide +kernel
example : (eval (mk [.expr (.pipe (p 1) (.var "f") [p 2])]) [] 30).int? = some 3 := by decide +kernel
/-- `(p(1), p(2)) |> f()` unpacks the tuple: prints 2, 1, 0; returns 3 (`pipe_unpacks_tuple`) -/
example : (eval (mk [.expr (.pipe (.tuple [p 1, p 2]) (.var "f") [])]) [] 30).out = [50, 13, 10, 49, 13, 10, 48, 13, 10] := by decide +kernel
example : (eval (mk [.expr (.pipe (.tuple [p 1, p 2]) (.var "f") [])]) [] 30).int? = some 3 := by decide +kernel
/-- `p(1) |> f(10 / z)` with `z = 0`: the fault in the argument comes first, nothing is printed (`eval_order_pipe_fault`) -/
example : (eval (mk [.bind false "z" (.lit (.int 0)), .expr (.pipe (p 1) (.var "f") [.bin .div (.lit (.int 10)) (.var "z")])]) [] 30).out
    = [] := by decide +kernel

/-! ranges and slices -/

private def prt (e : Expr) : Item := .expr (.builtin .print [e])
private def i (k : Int) : Expr := .lit (.int k)
private def arr4 : Expr := .arrLit [4] [i 10, i 11, i 12, i 13] .int

/-- `[p(1) .. p(2)]` prints 2 then 1 (`eval_order_range_bounds`) -/
example : (eval (mk [.bind false "r" (.range [p 1, p 2]), .expr (i 0)]) [] 30).out = [50, 13, 10, 49, 13, 10] := by decide +kernel
/-- `[7 .. 3][2][0]` is 5 = rangePos 7 3 2; position 5 does not exist (`range_index_denotation`) -/
example : (eval (mk [.expr (.index (.index (.range [i 7, i 3]) [i 2]) [i 0])]) [] 30).int? = some 5 := by decide +kernel
example : Idx.rangePos 7 3 2 = 5 ∧ Idx.rangeLen 7 3 = 5 := by decide
example : (eval (mk [.expr (.index (.index (.range [i 7, i 3]) [i 5]) [i 0])]) [] 30).exc? = some .index_out_of_bounds := by decide +kernel
example : (eval (mk [.expr (.index (.index (.range [i 7, i 3]) [.un .neg (i 1)]) [i 0])]) [] 30).exc? = some .index_out_of_bounds := by decide +kernel
/-- `var n = 3; let r = [0 .. n]; n = 5; for (x in r) print(x)` prints 0 … 5: the range holds the cell of `n`
(`range_sees_assignment_to_bound`) -/
example : (eval (mk [.bind true "n" (i 3), .bind false "r" (.range [i 0, .var "n"]), .expr (.assign (.var "n") (i 5)),
    .expr (.forIn "x" (.var "r") (.builtin .print [.var "x"]))]) [] 40).out
    = [48, 13, 10, 49, 13, 10, 50, 13, 10, 51, 13, 10, 52, 13, 10, 53, 13, 10] := by decide +kernel
/-- `for (x in [2 .. 0])` visits 2, 1, 0; `[4 .. 4]` has one element (`range_loop_visits_positions`, `for_in_range_step`) -/
example : (eval (mk [.expr (.forIn "x" (.range [i 2, i 0]) (.builtin .print [.var "x"]))]) [] 40).out
    = [50, 13, 10, 49, 13, 10, 48, 13, 10] := by decide +kernel
example : (eval (mk [.expr (.forIn "x" (.range [i 4, i 4]) (.builtin .print [.var "x"]))]) [] 40).out = [52, 13, 10] := by decide +kernel
example : loopVals (decide ((2 : Int) < 0)) 0 9 2 = [2, 1, 0] ∧ loopVals (decide ((4 : Int) < 4)) 4 9 4 = [4] := by decide
/-- the `to` bound is re-read before every iteration: `var k = 4; for (x in [0 .. k]) { k = k - 1; print(x) }` prints 0 1 2 -/
example : (eval (mk [.bind true "k" (i 4), .expr (.forIn "x" (.range [i 0, .var "k"])
    (.seq [.expr (.assign (.var "k") (.bin .sub (.var "k") (i 1))), prt (.var "x")]))]) [] 40).out
    = [48, 13, 10, 49, 13, 10, 50, 13, 10] := by decide +kernel
/-- `let a = [10,11,12,13]; let s = a[3 .. 1]; a[2] = 99; s[1]` is 99, and `s[0] = 7; a[3]` is 7 (`slice_aliases_array`:
`s[1]` is the cell of `a[rangePos 3 1 1] = a[2]`) -/
example : (eval (mk [.bind true "a" arr4, .bind false "s" (.slice (.var "a") [i 3, i 1]),
    .expr (.assign (.index (.var "a") [i 2]) (i 99)), .expr (.index (.var "s") [i 1])]) [] 40).int? = some 99 := by decide +kernel
example : (eval (mk [.bind true "a" arr4, .bind true "s" (.slice (.var "a") [i 3, i 1]),
    .expr (.assign (.index (.var "s") [i 0]) (i 7)), .expr (.index (.var "a") [i 3])]) [] 40).int? = some 7 := by decide +kernel
/-- the slice keeps the array OBJECT: after `a = other` it still shows the old elements (`slice_of_array_shares_object`) -/
example : (eval (mk [.bind true "a" arr4, .bind false "s" (.slice (.var "a") [i 1, i 2]),
    .expr (.assign (.var "a") (.arrLit [2] [i 0, i 0] .int)), .expr (.index (.var "s") [i 0])]) [] 40).int? = some 11 := by decide +kernel
/-- no check when slicing, `index_out_of_bounds` when the element is used: `a[-1 .. 9]` is fine, its element 0 is not -/
example : (eval (mk [.bind false "s" (.slice arr4 [.un .neg (i 1), i 9]), .expr (.index (.var "s") [i 1])]) [] 40).int? = some 10 := by decide +kernel
example : (eval (mk [.bind false "s" (.slice arr4 [.un .neg (i 1), i 9]), .expr (.index (.var "s") [i 0])]) [] 40).exc?
    = some .index_out_of_bounds := by decide +kernel
/-- slice of a slice, slice of a range (C12 `slice_of_slice`): `a[3 .. 0][1 .. 2]` is `[12, 11]`; `[10 .. 100][0 .. 10][5 .. 10]` starts at 15 -/
example : (eval (mk [.expr (.forIn "x" (.slice (.slice arr4 [i 3, i 0]) [i 1, i 2]) (.builtin .print [.var "x"]))]) [] 40).out
    = [49, 50, 13, 10, 49, 49, 13, 10] := by decide +kernel
example : (eval (mk [.expr (.index (.index (.slice (.slice (.range [i 10, i 100]) [i 0, i 10]) [i 5, i 10]) [i 0]) [i 0])]) [] 40).int?
    = some 15 := by decide +kernel
/-- `x[a .. b]` evaluates `x` first (`eval_order_slice`): `{ print(0); arr }[p(1) .. p(2)]` prints 0, 2, 1 -/
example : (eval (mk [.bind false "s" (.slice (.seq [prt (i 0), .expr arr4]) [p 1, p 2]), .expr (i 0)]) [] 40).out
    = [48, 13, 10, 50, 13, 10, 49, 13, 10] := by decide +kernel
/-- a string slice is a new string, descending bounds reverse: `prints("hello"[3 .. 1])` prints `lle` -/
example : (eval (mk [.expr (.builtin .prints [.slice (.lit (.str [104, 101, 108, 108, 111])) [i 3, i 1]]), .expr (i 0)]) [] 40).out
    = [108, 108, 101] := by decide +kernel
/-- a comprehension over a descending range: `[ x * 2 | x in [3 .. 1] ]` is `[6, 4, 2]` -/
example : (eval (mk [.expr (.forIn "y" (.listcomp (.bin .mul (.var "x") (i 2)) [.gen "x" (.range [i 3, i 1])] .int)
    (.builtin .print [.var "y"]))]) [] 40).out = [54, 13, 10, 52, 13, 10, 50, 13, 10] := by decide +kernel

/-- the hypotheses of `range_index_denotation` / `range_index_matches_idx` / `range_sees_assignment_to_bound` on a
concrete store: cells 0, 1 hold 7 and 3, cell 2 is the range object `[7 .. 3]` -/
private def stR : St := { mem := #[.int 7, .int 3, .rngObj #[0, 1]] }
example : (rangeDeref (some 2) [2] stR matches .ok 5 _) = true := by
  rw [range_index_denotation stR 2 0 1 7 3 2 rfl rfl rfl (by decide)]; rfl
example : (rangeDeref (some 2) [5] stR matches .exc .index_out_of_bounds _) = true := by
  rw [range_index_denotation stR 2 0 1 7 3 5 rfl rfl rfl (by decide)]; rfl
example : ∃ l s', rangeDeref (some 2) [2] stR = .ok l s' ∧ s'.mem[stR.mem.size]? = some (.int (Int32.ofInt 5)) ∧
    (5 : Int) = Idx.rangePos (7 : Int32).toInt (3 : Int32).toInt 2 :=
  (range_index_matches_idx stR 2 0 1 7 3 2 rfl rfl rfl (by decide) 5).mp (by decide)
example : ∀ s', store 1 (.int 9) stR = .ok () s' → rngBounds 2 s' = .ok [((7 : Int32).toInt, (9 : Int32).toInt)] s' :=
  range_sees_assignment_to_bound stR 2 0 1 7 3 9 rfl rfl rfl (by decide)
/-- the hypotheses of `slice_aliases_array`: cell 4 is the array object `[10, 11, 12]` (element cells 5, 6, 7), cell 3 the
slice object of `arr[2 .. 0]` over the range object in cell 2 (bound cells 0, 1): its element 1 is the array's cell 6 -/
private def stS : St := { mem := #[.int 2, .int 0, .rngObj #[0, 1], .slcObj 4 2, .arrObj [3] #[5, 6, 7], .int 10, .int 11, .int 12] }
example : sliceDeref (some 3) [1] stS = arrDeref (.arr (some 4)) [1] stS := by
  rw [slice_aliases_array stS 3 4 2 0 1 2 0 1 rfl rfl rfl rfl (by decide)]; rfl
example : (sliceDeref (some 3) [0] stS matches .ok 7 _) = true ∧ (sliceDeref (some 3) [2] stS matches .ok 5 _) = true := by
  rw [slice_aliases_array stS 3 4 2 0 1 2 0 0 rfl rfl rfl rfl (by decide),
    slice_aliases_array stS 3 4 2 0 1 2 0 2 rfl rfl rfl rfl (by decide)]
  constructor <;> rfl
example : (sliceDeref (some 3) [3] stS matches .exc .index_out_of_bounds _) = true := by
  rw [slice_aliases_array stS 3 4 2 0 1 2 0 3 rfl rfl rfl rfl (by decide)]; rfl
/-- … and of `slice_element_is_array_element`: with `s` (cell 8) the slice, `a` (cell 9) the array, `i = 1`, `j = 1`:
`s[i]` and `a[j]` are the same computation -/
private def stE : St := { mem := stS.mem ++ #[.slc (some 3), .arr (some 4), .int 1, .int 1] }
example : evalE 5 {} [("s", 8), ("a", 9), ("i", 10), ("j", 11)] (.index (.var "s") [.var "i"]) stE
    = evalE 5 {} [("s", 8), ("a", 9), ("i", 10), ("j", 11)] (.index (.var "a") [.var "j"]) stE :=
  slice_element_is_array_element 2 {} _ "s" "a" 8 9 stE 3 4 2 0 1 2 0 1 rfl rfl rfl rfl rfl rfl rfl rfl (by decide) (by decide)
    10 11 rfl rfl (by decide) "i" "j" rfl rfl
/-- `parameter_names_are_references` and the use-site theorems on concrete stores (cell 3 / cell 8 hold the references) -/
example : (bindParams [{ name := "r", ty := .rng, dims := ["lo", "hi"] }] [3] [] { stR with mem := stR.mem.push (.rng (some 2)) }
    matches .ok [("hi", 5), ("lo", 4), ("r", 3)] _) = true := by
  rw [parameter_names_are_references _ 3 "lo" "hi" [] _ (.rng (some 2)) rfl rfl rfl]; rfl
private def stP : St := { mem := (stE.mem.push (.dimRef 8 1)).push (.dimRef 9 0) ++ #[.rng (some 2), .dimRef 14 1, .arr none, .dimRef 16 0] }
example : evalE 1 {} [("t", 12)] (.dimVar "t") stP = alloc (.int 2) stP :=
  (slice_bound_names 0 {} _ "t" 12 8 3 4 2 0 1 2 0 stP rfl rfl rfl rfl rfl rfl).2 rfl
example : evalE 1 {} [("D", 13)] (.dimVar "D") stP = alloc (.int 3) stP :=
  extent_name_is_read_at_use 0 {} _ "D" 13 9 4 0 [3] #[5, 6, 7] 3 stP rfl rfl rfl rfl rfl
example : evalE 1 {} [("hi", 15)] (.dimVar "hi") stP = .ok 1 stP :=
  range_bound_name_is_the_bound_cell 0 {} _ "hi" 15 14 2 1 #[0, 1] 1 stP rfl rfl rfl rfl rfl
example : evalE 1 {} [("D", 17)] (.dimVar "D") stP = throwE .nil_pointer stP :=
  name_of_nil_parameter_raises 0 {} _ "D" 17 16 0 stP _ rfl rfl rfl (Or.inl rfl)
example : evalForIn 1 {} [] "x" 16 0 (.var "x") stP = throwE .nil_pointer stP :=
  (for_in_nil_array_raises 0 {} [] "x" 16 0 (.var "x") stP [] (.var "x") .int 0 rfl).1
/-- `func f([lo .. hi] : range) -> int { hi - lo }` applied to `[3 .. 10]` is 7; `func g(s[f .. t] : int) -> int { t }` applied
to `arr[3 .. 1]` is 2; `func d(var a[D] : int, b[E] : int) -> int { a = b; D }` applied to arrays of 4 and 2 elements is 2
(the extent is read when `D` is used); `func d(a[D] : int) -> int { D } catch (nil_pointer) { 0 - 3 }` applied to a nil
element is −3, and 7 when the body is `7` -/
example : (eval { recs := [], enums := [], funcs := [
    .mk 0 "f" [{ name := "", ty := .rng, dims := ["lo", "hi"] }] .int (.bin .sub (.dimVar "hi") (.dimVar "lo")) [],
    .mk 1 "main" [] .int (.call (.var "f") [.range [i 3, i 10]]) []] } [] 30).int? = some 7 := by decide +kernel
example : (eval { recs := [], enums := [], funcs := [
    .mk 0 "g" [{ name := "s", ty := .slc, dims := ["f", "t"] }] .int (.dimVar "t") [],
    .mk 1 "main" [] .int (.call (.var "g") [.slice arr4 [i 3, i 1]]) []] } [] 30).int? = some 2 := by decide +kernel
example : (eval { recs := [], enums := [], funcs := [
    .mk 0 "d" [{ name := "a", ty := .arr, dims := ["D"] }, { name := "b", ty := .arr, dims := ["E"] }] .int
      (.seq [.expr (.assign (.var "a") (.var "b")), .expr (.dimVar "D")]) [],
    .mk 1 "main" [] .int (.call (.var "d") [arr4, .arrLit [2] [i 1, i 2] .int]) []] } [] 30).int? = some 2 := by decide +kernel
example : (eval { recs := [], enums := [], funcs := [
    .mk 0 "d" [{ name := "a", ty := .arr, dims := ["D"] }] .int (.dimVar "D") [.mk (some .nil_pointer) (.un .neg (i 3))],
    .mk 1 "main" [] .int (.call (.var "d") [.index (.arrNew [i 2] .arr) [i 0]]) []] } [] 30).int? = some (-3) := by decide +kernel
example : (eval { recs := [], enums := [], funcs := [
    .mk 0 "d" [{ name := "a", ty := .arr, dims := ["D"] }] .int (i 7) [.mk (some .nil_pointer) (.un .neg (i 3))],
    .mk 1 "main" [] .int (.call (.var "d") [.index (.arrNew [i 2] .arr) [i 0]]) []] } [] 30).int? = some 7 := by decide +kernel
/-- `func f(k[cnt] : int) -> int { let k = 7; cnt }` applied to a 4-element array is 4: the `let k` does not change what
`cnt` reads (`extent_name_ignores_shadowing_of_the_parameter_name`); `[cnt, 0] : int` holds the int 4 -/
example : (eval { recs := [], enums := [], funcs := [
    .mk 0 "f" [{ name := "k", ty := .arr, dims := ["cnt"] }] .int (.seq [.bind false "k" (i 7), .expr (.dimVar "cnt")]) [],
    .mk 1 "main" [] .int (.call (.var "f") [arr4]) []] } [] 30).int? = some 4 := by decide +kernel
example : (eval { recs := [], enums := [], funcs := [
    .mk 0 "f" [{ name := "k", ty := .arr, dims := ["cnt"] }] .int
      (.seq [.bind false "k" (i 7), .bind true "v" (.arrLit [2] [.dimVar "cnt", i 0] .int),
        .expr (.assign (.index (.var "v") [i 1]) (i 5)), .expr (.bin .add (.index (.var "v") [i 0]) (.index (.var "v") [i 1]))]) [],
    .mk 1 "main" [] .int (.call (.var "f") [arr4]) []] } [] 30).int? = some 9 := by decide +kernel
example : evalE 1 {} [("k", 0), ("D", 13)] (.dimVar "D") stP = evalE 1 {} [("D", 13)] (.dimVar "D") stP :=
  extent_name_ignores_shadowing_of_the_parameter_name 0 {} _ "D" "k" 0 stP (by decide)
/-- the hypotheses of `comprehension_over_range_denotation` on a concrete store: cell 0 holds `to` = 1, cell 1 is the empty
array object; from = 3: three new cells 2, 3, 4 hold 3, 2, 1 and the array object lists them -/
private def stC : St := { mem := #[.int 1, .arrObj [0] #[]] }
example : ∃ s', evalGenRng 6 {} [] "x" none 3 (decide ((3 : Int) < (1 : Int32).toInt)) 0 [] (.var "x") .int 1 stC = .ok () s' ∧
    s'.mem.size = 5 ∧ s'.mem[1]? = some (.arrObj [3] #[2, 3, 4]) ∧
    s'.mem[2]? = some (.int 3) ∧ s'.mem[3]? = some (.int 2) ∧ s'.mem[4]? = some (.int 1) := by
  obtain ⟨s', h1, h2, h3, h4, _, _⟩ := comprehension_over_range_denotation {} [] "x" 0 1 3 1 6 stC [0] #[] rfl rfl (by decide)
    (by decide) (by decide)
  exact ⟨s', h1, h2, h3, h4 0 (by decide), h4 1 (by decide), h4 2 (by decide)⟩

/-! array arithmetic -/

private def a3 (x y z : Int) : Expr := .arrLit [3] [i x, i y, i z] .int
private def prtAll (e : Expr) : Item := .expr (.forIn "q" e (.builtin .print [.var "q"]))
/-- `[1,2,3] + [10,20,30]` is `[11,22,33]`; `2 * [3,5,7]` is `[6,10,14]`; `-[1,2,3]`; `[5,5,5] - [1,2,3]` -/
example : (eval (mk [prtAll (.bin .add (a3 1 2 3) (a3 10 20 30))]) [] 40).out = [49, 49, 13, 10, 50, 50, 13, 10, 51, 51, 13, 10] := by decide +kernel
example : (eval (mk [prtAll (.bin .mul (i 2) (a3 3 5 7))]) [] 40).out = [54, 13, 10, 49, 48, 13, 10, 49, 52, 13, 10] := by decide +kernel
example : (eval (mk [prtAll (.un .neg (a3 1 2 3))]) [] 40).out = [45, 49, 13, 10, 45, 50, 13, 10, 45, 51, 13, 10] := by decide +kernel
example : (eval (mk [prtAll (.bin .sub (a3 5 5 5) (a3 1 2 3))]) [] 40).out = [52, 13, 10, 51, 13, 10, 50, 13, 10] := by decide +kernel
/-- shapes that do not conform: `[1,2,3] + [1,2]` raises `wrong_array_size` (`array_add_shape_conformance`) -/
example : (eval (mk [prtAll (.bin .add (a3 1 2 3) (.arrLit [2] [i 1, i 2] .int))]) [] 40).exc? = some .wrong_array_size := by decide +kernel
/-- `[[1,2],[3,4]] * [[5,6],[7,8]]` is `[[19,22],[43,50]]`; a 2×2 times a 3×1 raises `wrong_array_size` -/
example : (eval (mk [prtAll (.index (.bin .mul (.arrLit [2, 2] [i 1, i 2, i 3, i 4] .int) (.arrLit [2, 2] [i 5, i 6, i 7, i 8] .int)) [i 1, i 0]
    |> fun e => .arrLit [1] [e] .int)]) [] 40).out = [52, 51, 13, 10] := by decide +kernel
example : (eval (mk [.expr (.index (.bin .mul (.arrLit [2, 2] [i 1, i 2, i 3, i 4] .int) (.arrLit [3, 1] [i 5, i 6, i 7] .int)) [i 0, i 0])]) [] 40).exc?
    = some .wrong_array_size := by decide +kernel
/-- the hypotheses of the store-level theorems: two array objects of extents `[2]` and `[3]` -/
private def stA : St := { mem := #[.arrObj [2] #[2, 3], .arrObj [3] #[2, 3, 4], .int 1, .int 2, .int 3] }
example : arrZip .add (some 0) (some 1) stA = throwE .wrong_array_size stA := by
  rw [(array_add_shape_conformance .add stA 0 1 [2] [3] _ _ rfl rfl).2]; rfl
example : (arrZip .add (some 0) (some 0) stA matches .ok (.arr (some 7)) _) = true := by
  rw [(array_add_shape_conformance .add stA 0 0 [2] [2] _ _ rfl rfl).2]; rfl
example : matMul (some 0) (some 1) stA = throwE .wrong_array_size stA :=
  (array_mul_shape_conformance stA 0 1 [2] [3] _ _ rfl rfl).2 (by rintro ⟨r1, c1, c2, h, _⟩; cases h)

/-! modules -/

private def getF (idn : Nat) : Func := .mk idn "get" [] .int (.var "X") []
private def uA : Mod.Unit := { name := "ma", uses := ["mc"], recs := [], enums := [],
                                        items := [.bind true "X" (.bin .add (.builtin .print [i 1]) (.var "mc.X")), .funcs [getF 1]] }
private def uB : Mod.Unit := { name := "mb", uses := ["mc"], recs := [], enums := [],
                                        items := [.bind true "X" (.builtin .print [i 2]), .funcs [getF 2]] }
private def uC : Mod.Unit := { name := "mc", uses := [], recs := [], enums := [],
                                        items := [.bind true "X" (.builtin .print [i 3]), .funcs [getF 3]] }
private def uMain : Mod.Unit := { name := "", uses := ["ma", "mb"], recs := [], enums := [],
                                        items := [.bind true "X" (i 100), .funcs [getF 4, .mk 5 "main" [] .int
                                            (.bin .add (.bin .mul (.call (.var "ma.get") []) (i 100)) (.bin .add (.bin .mul (.call (.var "mb.get") []) (i 10)) (.call (.var "get") []))) []]] }
/-- a shared module used from two places is loaded once, before its users: `mc, ma, mb` (`module_loaded_once`) -/
example : Mod.loadOrder [uA, uB, uC] uMain = ["mc", "ma", "mb"] := by decide
example : (Mod.loadOrder [uA, uB, uC] uMain).Nodup := module_loaded_once _ _
/-- dependency order whatever the main unit's `use` order: `ma` uses `mc`, the main unit uses only `ma` -/
example : Mod.loadOrder [uA, uC] { uMain with uses := ["ma"] } = ["mc", "ma"] := by decide
/-- a `use` cycle is refused -/
example : Mod.cyclic [{ uA with uses := ["mb"] }, { uB with uses := ["ma"] }] uMain = true := by decide
example : Mod.cyclic [uA, uB, uC] uMain = false := by decide
/-- every unit has its own `X` and `get`: the initialisers print 3 (once), 1, 2; `ma.get()` is 4 = 1 + mc.X, `mb.get()` is 2,
the main unit's `get()` is 100: 4·100 + 2·10 + 100 = 520 (`qualified_name_resolves_in_its_unit`) -/
example : (Mod.evalUnits uMain [uA, uB, uC] [] 40).map (·.out) = some [51, 13, 10, 49, 13, 10, 50, 13, 10] := by decide +kernel
example : (Mod.evalUnits uMain [uA, uB, uC] [] 40).bind (·.int?) = some 520 := by decide +kernel
example : Mod.itemBinders (Mod.qualItems Mod.qdot "ma" uA.items) = ["ma.X", "ma.get"] := by decide
example : "ma.X" ∉ Mod.itemBinders (Mod.qualItems Mod.qdot "mb" uB.items) := by decide
/-- a use of `X` inside `get` follows its binder: `func get() -> int { X }` of `ma` becomes `ma.get` reading `ma.X` -/
example : Mod.qualItems Mod.qdot "ma" [.bind true "X" (i 1), .funcs [getF 1]]
    = [.bind true "ma.X" (i 1), .funcs [.mk 1 "ma.get" [] .int (.var "ma.X") []]] :=
  by rfl

end Examples

end Never.Src.C02
