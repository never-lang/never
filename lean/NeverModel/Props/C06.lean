import NeverModel.Lemmas.CheckRules
import NeverModel.Lemmas.CheckSound
/-!
# C06 — ill-typed programs are rejected with a diagnostic

Model: `NeverModel/Model/Check.lean` (`check : Prog → Except Diag Unit`, the first diagnostic of
`front/typecheck.c` for a core of the language), tied to the C code by correspondence
(`checks/c06_corr.py`: generated well-typed programs × single-fault mutators; accept/reject, line
and kind of the first `error:` compared with `nev_compile_str`).

Shape of every `rejects_*` theorem: for EVERY program context `P` (`ProgCtx`: which top-level
function, body or catch clause, then any stack of frames — operands, arguments, bindings, blocks,
nested functions, function literals (closures), comprehension elements and qualifiers, match
arms, loop bodies, catch-clause bodies, to any depth; there is no hole position among the arguments
of a constructor `En::it(…)`, in a record `if let`, or in the arm of a record guard) such that the
checker reaches the hole
(`P.holeEnv = ok Γ`: nothing visited before the hole is itself in error — the single-fault
reading of the property; `Γ` is the symbol table in force at the hole), and for every offending
node placed in the hole, `check (P.plug bad) = error d` with `d.line` the offending node's line.
`context_never_accepts` drops the reachability hypothesis for nodes that are wrong in every table.

Proofs in `Lemmas/CheckCtx.lean`, `CheckPlug.lean`, `CheckProg.lean`, `CheckRules.lean`.
-/
namespace Never.C06
open Never.Tc

/-! ## the general lemmas: `check` is compositional -/

/-- an error found at the hole is the program's diagnostic -/
theorem context_error_propagates (P : ProgCtx) (Γ : Env) (e : Expr) (d : Diag)
    (hreach : P.holeEnv = .ok Γ) (he : tc Γ e = .error d) : check (P.plug e) = .error d :=
  P.plug_error Γ e d hreach he

/-- an error found before the hole is the program's diagnostic, whatever is in the hole -/
theorem context_prefix_error (P : ProgCtx) (e : Expr) (d : Diag)
    (h : P.holeEnv = .error d) : check (P.plug e) = .error d :=
  P.plug_prefix e d h

/-- a node that is wrong in every symbol table is never accepted, in any context at all -/
theorem context_never_accepts (P : ProgCtx) (e : Expr) (hbad : ∀ Γ, ∃ d, tc Γ e = .error d) :
    ∃ d, check (P.plug e) = .error d :=
  P.never_accepts e hbad

/-- the same for a whole function (top level / item of a block / literal) whose catch clauses,
body or result are in error -/
theorem function_error_propagates (C : FuncCtx) (f : Func) (Γf : Env) (s : Sig) (d : Diag)
    (hreach : C.env f = .ok (Γf, s)) (hf : tcRest Γf s f = .error d) : check (C.plug f) = .error d :=
  C.plug_error f Γf s d hreach hf

/-! ## the catalogue -/

/-- assignment to a `let` binding or to a parameter not declared `var` -/
theorem rejects_assign_let_or_param (P : ProgCtx) (Γ : Env) (ln lx : Ln) (x : String) (rhs : Expr)
    (ent : Entry) (cr : Comb) (hreach : P.holeEnv = .ok Γ)
    (hx : Γ.lookup x = some ent) (hconst : constEntry ent = true) (hr : tc Γ rhs = .ok cr) :
    check (P.plug (.ass ln (.id lx x) rhs)) = .error ⟨ln, .assignConst⟩ :=
  P.plug_error Γ _ _ hreach (tc_assign_const hx hconst hr)

/-- … and to anything else that is not a `var` l-value (result of a call without `var`, element
of a `let` array, field declared `let`, a loop, a literal, …) -/
theorem rejects_assign_nonvar (P : ProgCtx) (Γ : Env) (ln : Ln) (l rhs : Expr) (cl cr : Comb)
    (hreach : P.holeEnv = .ok Γ) (hl : tc Γ l = .ok cl) (hc : cl.cst ≠ .var) (hr : tc Γ rhs = .ok cr) :
    check (P.plug (.ass ln l rhs)) = .error ⟨ln, .assignConst⟩ :=
  P.plug_error Γ _ _ hreach (tc_assign_nonvar hl hc hr)

/-- call with the wrong number of arguments -/
theorem rejects_call_arity (P : ProgCtx) (Γ : Env) (ln : Ln) (f : Expr) (args : ExprList) (cf : Comb)
    (cs : List (Ln × Comb)) (ps : TyList) (rc : PCst) (r : Ty) (hreach : P.holeEnv = .ok Γ)
    (hf : tc Γ f = .ok cf) (hct : cf.ct = .val (.func ps rc r)) (ha : tcArgs Γ args = .ok cs)
    (hlen : ps.toList.length ≠ cs.length) :
    check (P.plug (.call ln f args)) = .error ⟨ln, .callMismatch⟩ :=
  P.plug_error Γ _ _ hreach (tc_call_arity hf hct ha hlen)

/-- call with an argument of a kind the parameter does not accept (`Accepts`: numeric kinds
convert, enum → int, otherwise the same type — function types compared through every level).
The diagnostic is at the call or at one of the arguments.  Full strength since the repair of
`param_cmp` (186dfd9); before it, it needed first-order parameter types. -/
theorem rejects_call_kind (P : ProgCtx) (Γ : Env) (ln : Ln) (f : Expr) (args : ExprList)
    (cf : Comb) (cs : List (Ln × Comb)) (ps : TyList) (rc : PCst) (r : Ty)
    (hreach : P.holeEnv = .ok Γ)
    (hf : tc Γ f = .ok cf) (hct : cf.ct = .val (.func ps rc r)) (ha : tcArgs Γ args = .ok cs)
    (hbad : SomeArgRejected ps.toList cs) :
    ∃ d, check (P.plug (.call ln f args)) = .error d ∧ (d.line = ln ∨ ∃ a ∈ cs, d.line = a.1) := by
  obtain ⟨d, hd, hl⟩ := tc_call_kind hf hct ha hbad
  exact ⟨d, P.plug_error Γ _ _ hreach hd, hl⟩

/-- `(int) -> r` -/
def cexInner (r : Ty) : Ty := .func (.cons .const .int .nil) .const r
/-- parameter type `((int) -> int) -> int` -/
def cexParam : Ty := .func (.cons .const (cexInner .int) .nil) .const .int
/-- argument type `((int) -> string) -> int` -/
def cexArg : Ty := .func (.cons .const (cexInner .string) .nil) .const .int

theorem cexArg_not_accepted : ¬ Accepts cexParam (.val cexArg) := by
  intro h
  cases h with
  | num _ _ hp _ => simp [isNum, cexParam] at hp
  | func _ _ _ _ _ _ hps _ =>
    cases hps with
    | cons _ _ _ _ _ ht _ =>
      cases ht with
      | func _ _ _ _ _ _ _ hr => cases hr

/-- HISTORY — the point that `rejects_call_kind` had to exclude in the pinned tree: the pinned
`param_cmp` (`paramCmpPinned`, `func_cmp(one.params, one.ret, two.params, one.ret)`) said yes
to `(int) -> int` against `(int) -> string` whenever it compared two function types, so a
parameter `h((int) -> int) -> int` took an argument `((int) -> string) -> int`; the repaired
comparison (the model's `paramExprCmp`) rejects it, silently, i.e. with the diagnostic at the call -/
theorem rejects_call_kind_pinned_counterexample :
    paramCmpPinned true .const (cexInner .int) .const (cexInner .string) = true ∧
    ¬ Accepts cexParam (.val cexArg) ∧
    paramExprCmp true .const cexParam 1 ⟨.val cexArg, .temp⟩ = .fail none :=
  ⟨rfl, cexArg_not_accepted, rfl⟩

/-- use of an undefined name -/
theorem rejects_undefined_name (P : ProgCtx) (Γ : Env) (ln : Ln) (x : String)
    (hreach : P.holeEnv = .ok Γ) (hx : Γ.lookup x = none) :
    check (P.plug (.id ln x)) = .error ⟨ln, .undefId⟩ :=
  P.plug_error Γ _ _ hreach (tc_id_undef hx)

/-- use of an undefined attribute of a record -/
theorem rejects_undefined_attribute (P : ProgCtx) (Γ : Env) (ln : Ln) (r : Expr) (fld : String)
    (cr : Comb) (s : String) (hreach : P.holeEnv = .ok Γ) (hr : tc Γ r = .ok cr)
    (hrec : cr.ct = .val (.record s) ∨ cr.ct = .recordId s)
    (hf : findField (Γ.recordFields s) fld = none) :
    check (P.plug (.attr ln r fld)) = .error ⟨ln, .undefAttr⟩ :=
  P.plug_error Γ _ _ hreach (tc_attr_undef hr hrec hf)

/-- a binary operator on operand types outside its table (`binTy`; for the scalar kinds the
table is characterised declaratively by `binTy_scalar_sound` / `BinOk`) -/
theorem rejects_operator_incompatible (P : ProgCtx) (Γ : Env) (ln : Ln) (op : BinOp) (l r : Expr)
    (cl cr : Comb) (tl tr : Ty) (hreach : P.holeEnv = .ok Γ)
    (hl : tc Γ l = .ok cl) (hr : tc Γ r = .ok cr) (htl : cl.ct = .val tl) (htr : cr.ct = .val tr)
    (hop : binTy op tl tr = none) :
    check (P.plug (.bin ln op l r)) = .error ⟨ln, binRule op⟩ :=
  P.plug_error Γ _ _ hreach (tc_bin_incompat hl hr htl htr hop)

theorem rejects_unary_operator_incompatible (P : ProgCtx) (Γ : Env) (ln : Ln) (op : UnOp) (e : Expr)
    (c : Comb) (t : Ty) (hreach : P.holeEnv = .ok Γ)
    (he : tc Γ e = .ok c) (ht : c.ct = .val t) (hop : unTy op t = none) :
    check (P.plug (.un ln op e)) = .error ⟨ln, unRule op⟩ :=
  P.plug_error Γ _ _ hreach (tc_un_incompat he ht hop)

/-- a condition (`c ? a : b`, `if (c) a else b`) that is not `bool` -/
theorem rejects_nonbool_condition (P : ProgCtx) (Γ : Env) (ln : Ln) (c t e : Expr) (cc ct ce : Comb)
    (hreach : P.holeEnv = .ok Γ) (hc : tc Γ c = .ok cc) (ht : tc Γ t = .ok ct) (he : tc Γ e = .ok ce)
    (hb : isBool cc.ct = false) :
    check (P.plug (.cond ln c t e)) = .error ⟨ln, .condNotBool⟩ :=
  P.plug_error Γ _ _ hreach (tc_cond_nonbool hc ht he hb)

/-- a `while` condition that is not `bool` -/
theorem rejects_nonbool_while_condition (P : ProgCtx) (Γ : Env) (ln : Ln) (c b : Expr) (cc cb : Comb)
    (hreach : P.holeEnv = .ok Γ) (hc : tc Γ c = .ok cc) (hbd : tc Γ b = .ok cb)
    (hb : isBool cc.ct = false) :
    check (P.plug (.while_ ln c b)) = .error ⟨ln, .whileNotBool⟩ :=
  P.plug_error Γ _ _ hreach (tc_while_nonbool hc hbd hb)

/-- without any hypothesis on the context: `while (<int literal>) …` is never accepted -/
theorem rejects_nonbool_condition_anywhere (P : ProgCtx) (ln l : Ln) (b : Expr) :
    ∃ d, check (P.plug (.while_ ln (.litInt l) b)) = .error d := by
  apply P.never_accepts
  intro Γ
  cases hb : tc Γ b with
  | error d => exact ⟨d, by simp [tc, litComb, hb]⟩
  | ok cb => exact ⟨_, tc_while_nonbool (ln := ln) (c := .litInt l) (cc := ⟨.val .int, .temp⟩) rfl hb rfl⟩

/-- a function whose body yields a kind of value its declared result does not accept; the
diagnostic is at the function or at its result expression.  For a function at top level, as
an item of a block, or a literal, anywhere (`FuncCtx`). -/
theorem rejects_result_kind (C : FuncCtx) (Γf : Env) (s : Sig) (ln : Ln) (name : String)
    (ps : List Param) (rc : PCst) (rty : Ty) (body : Expr) (excs : ExcList) (c : Comb)
    (hreach : C.env (.mk ln name ps rc rty body excs) = .ok (Γf, s))
    (hx : tcExcs Γf s excs = .ok ()) (hb : tc Γf body = .ok c)
    (hbad : ¬ Accepts s.r c.ct) :
    ∃ d, check (C.plug (.mk ln name ps rc rty body excs)) = .error d ∧ (d.line = ln ∨ d.line = body.ln) := by
  obtain ⟨d, hd, hl⟩ := tcRest_result_kind hx hb hbad
  exact ⟨d, C.plug_error _ Γf s d hreach hd, hl⟩

/-- a `match` over an enum that has no `else` and leaves an enumerator without a guard.
PARTIAL: the guard list is not empty; see `rejects_match_missing_counterexample`. -/
theorem rejects_match_missing_partial (P : ProgCtx) (Γ : Env) (ln : Ln) (s : Expr) (g : Guard)
    (gs : GuardList) (cs : Comb) (en : String) (arms : List Comb) (it : String)
    (hreach : P.holeEnv = .ok Γ) (hs : tc Γ s = .ok cs) (hen : cs.ct = .val (.enum en))
    (hg : tcGuards Γ (.cons g gs) = .ok arms) (hsame : guardsSameEnum en (.cons g gs) = .ok ())
    (hnoelse : hasElse (.cons g gs) = false)
    (hit : it ∈ Γ.enumItems en) (hmiss : coversItem it (.cons g gs) = false) :
    check (P.plug (.match_ ln s (.cons g gs))) = .error ⟨ln, .matchMissing⟩ :=
  P.plug_error Γ _ _ hreach
    (tc_match_missing hs hen hg hsame
      ((not_exhaustive_iff Γ en _).2 ⟨hnoelse, it, hit, hmiss⟩))

/-- the excluded point: `match e { }` covers no enumerator and is accepted (expr_match_check_type
does nothing when the guard list is NULL) -/
theorem rejects_match_missing_counterexample :
    let p : Prog := ⟨[.enum 1 "E" [(1, "A"), (1, "B")]],
      .cons (.mk 2 "main" [] .dflt .int
        (.seq 5 (.cons (.expr (.match_ 4 (.enumVal 4 (.id 4 "E") "A") .nil))
                (.cons (.expr (.litInt 5)) .nil))) .nil) .nil⟩
    check p = .ok () := by
  rfl

/-- a catch clause naming an exception that does not exist; `xpre` are the clauses before it -/
theorem rejects_unknown_exception (C : FuncCtx) (Γf : Env) (s : Sig) (ln : Ln) (name : String)
    (ps : List Param) (rc : PCst) (rty : Ty) (body : Expr) (xpre xpost : ExcList) (xln : Ln)
    (xname : String) (xbody : Expr)
    (hreach : C.env (.mk ln name ps rc rty body (xpre.app (.cons (.mk xln xname xbody) xpost))) = .ok (Γf, s))
    (hpre : tcExcs Γf s xpre = .ok ()) (hun : unknownExc xname = true) :
    check (C.plug (.mk ln name ps rc rty body (xpre.app (.cons (.mk xln xname xbody) xpost))))
      = .error ⟨xln, .unknownException⟩ :=
  C.plug_error _ Γf s _ hreach
    (tcRest_unknown_exc hpre hun)

/-! ## soundness of acceptance, expression fragment -/

/-- PARTIAL (expression fragment: literals, identifiers, unary and binary operators,
parentheses, conditionals, `while`; scalar operand kinds): what `tc` accepts is
typable in the declarative system `HasType`, whose operator rules (`BinOk`, `UnOk`) are stated
from the language's promotion order int → long → float → double, not from the checker's tables -/
theorem check_sound_partial (Γ : Env) (e : Expr) (c : Comb) (hΓ : ScalarEnv Γ) (hfrag : Frag e)
    (h : tc Γ e = .ok c) : ∃ t, c.ct = .val t ∧ HasType Γ e t :=
  tc_sound_frag Γ e c hΓ hfrag h


/-! ## non-vacuity: one concrete context, five levels deep, used by every theorem

```
enum E { A, B }   record R { x : int; }
func main() -> int {
    let a = [ 1, 2 ] : int;  let e = E::A;  let r = R(1);
    func g(p : int) -> int {                         -- nested function
        match e {                                    -- match arm
            E::A -> (let func (q : int) -> int {     -- function literal (closure: uses a, e, r)
                       ([ { HOLE; x } | x in a ] : int)[0]   -- comprehension element
                     })(1);
            E::B -> 1;
        }
    } catch (overflow) { 0 };
    g(1)
} catch (division_by_zero) { 0 }
```
-/

def exDecls : List Decl :=
  [.enum 1 "E" [(1, "A"), (1, "B")], .record 2 "R" [⟨2, "x", .dflt, .int, []⟩]]

def exOne : Expr := .litInt 1
def exSeq1 (e : Expr) : Expr := .seq 0 (.cons (.expr e) .nil)

def exFrames : List Frame :=
  [ .seqFunc 20 (.cons (.bind 6 false "a" (.array 6 (.cons exOne (.cons exOne .nil)) .dflt .int))
        (.cons (.bind 7 false "e" (.enumVal 7 (.id 7 "E") "A"))
        (.cons (.bind 7 false "r" (.call 7 (.id 7 "R") (.cons exOne .nil))) .nil)))
      .nil (.body 8 "g" [⟨8, "p", .dflt, .int, []⟩] .dflt .int
              (.cons (.mk 18 "overflow" (exSeq1 (.litInt 18))) .nil))
      .nil (.cons (.expr (.call 19 (.id 19 "g") (.cons exOne .nil))) .nil),
    .seqExpr 10 .nil .nil,
    .matchArm 10 (.id 10 "e") .nil (.item 11 "E" "A") (.cons (.item 15 "E" "B" exOne) .nil),
    .callF 11 (.cons exOne .nil),
    .sup 11,
    .funcLit (.body 11 "" [⟨11, "q", .dflt, .int, []⟩] .dflt .int .nil),
    .seqExpr 13 .nil .nil,
    .derefA 13 (.cons (.litInt 13) .nil),
    .sup 13,
    .lcE 13 (.cons (.gen 13 "x" (.id 13 "a")) .nil) .dflt .int,
    .seqExpr 13 .nil (.cons (.expr (.id 13 "x")) .nil) ]

def exP : ProgCtx :=
  { decls := exDecls, fpre := .nil,
    h := .body 5 "main" [] .dflt .int (.cons (.mk 21 "division_by_zero" (exSeq1 (.litInt 21))) .nil),
    fpost := .nil, frames := exFrames }

instance : Inhabited Env := ⟨⟨[], [], []⟩⟩

/-- the symbol table at the hole -/
def exΓ : Env := match exP.holeEnv with | .ok Γ => Γ | .error _ => default

/-- … written out, innermost block first: the block at the hole, the comprehension (`x`), the
closure's block and parameter, the arm's block, `g` with its parameter, the block of `main`,
`main` itself, the module's names, the built-ins -/
def exTable : Env :=
  let g : Entry := .func (.cons .const .int .nil) .const .int
  let main : Entry := .func .nil .const .int
  ⟨[("E", ["A", "B"])], [("R", [⟨"x", .var, .int⟩])],
   [[], [("x", .qual ⟨.val .int, .var⟩)], [], [("q", .param .const .int)], [],
    [("p", .param .const .int), ("g", g)],
    [("g", g), ("r", .bind false (.val (.record "R"))), ("e", .bind false (.val (.enum "E"))),
     ("a", .bind false (.val (.array 1 .var .int)))],
    [("main", main)], [("main", main), ("R", .record), ("E", .enum)], stdlibScope]⟩

theorem exP_table : exP.holeEnv = .ok exTable := rfl

theorem exΓ_eq : exΓ = exTable := by
  rw [exΓ, exP_table]

theorem exP_reaches : exP.holeEnv = .ok exΓ :=
  exΓ_eq ▸ exP_table

deriving instance DecidableEq for Except

/-- the context itself is a well-typed program when the hole holds a harmless expression -/
example : check (exP.plug (.litInt 13)) = .ok () := by decide +kernel

-- assignment to the `let` binding `e` of the enclosing function, from inside the closure
example : check (exP.plug (.ass 13 (.id 13 "e") (.enumVal 13 (.id 13 "E") "B"))) = .error ⟨13, .assignConst⟩ :=
  rejects_assign_let_or_param exP exTable 13 13 "e" _ (.bind false (.val (.enum "E"))) ⟨.val (.enum "E"), .temp⟩
    exP_table rfl rfl rfl
-- … and to the non-`var` parameter `q` of the closure
example : check (exP.plug (.ass 13 (.id 13 "q") exOne)) = .error ⟨13, .assignConst⟩ :=
  rejects_assign_let_or_param exP exTable 13 13 "q" _ (.param .const .int) ⟨.val .int, .temp⟩ exP_table rfl rfl rfl
example : check (exP.plug (.ass 13 (.call 13 (.id 13 "g") (.cons exOne .nil)) exOne)) = .error ⟨13, .assignConst⟩ :=
  rejects_assign_nonvar exP exTable 13 _ _ ⟨.val .int, .const⟩ ⟨.val .int, .temp⟩ exP_table rfl (by decide) rfl
-- g(1, 1)
example : check (exP.plug (.call 13 (.id 13 "g") (.cons exOne (.cons exOne .nil)))) = .error ⟨13, .callMismatch⟩ :=
  rejects_call_arity exP exTable 13 _ _ ⟨.val (.func (.cons .const .int .nil) .const .int), .temp⟩
    [(1, ⟨.val .int, .temp⟩), (1, ⟨.val .int, .temp⟩)] _ _ _ exP_table rfl rfl rfl (by decide)
-- g("s"): the diagnostic is at the argument (line 14)
example : ∃ d, check (exP.plug (.call 13 (.id 13 "g") (.cons (.litString 14) .nil))) = .error d ∧
    (d.line = 13 ∨ ∃ a ∈ [(14, (⟨.val .string, .temp⟩ : Comb))], d.line = a.1) :=
  rejects_call_kind exP exTable 13 _ _ ⟨.val (.func (.cons .const .int .nil) .const .int), .temp⟩
    [(14, ⟨.val .string, .temp⟩)] _ _ _ exP_table rfl rfl rfl
    (.inl (by intro h; cases h with | num _ _ _ hb => simp [isNum] at hb))
example : check (exP.plug (.call 13 (.id 13 "g") (.cons (.litString 14) .nil))) = .error ⟨14, .paramKind⟩ := by decide +kernel
example : check (exP.plug (.id 13 "nosuch")) = .error ⟨13, .undefId⟩ :=
  rejects_undefined_name exP exTable 13 "nosuch" exP_table rfl
example : check (exP.plug (.attr 13 (.id 13 "r") "y")) = .error ⟨13, .undefAttr⟩ :=
  rejects_undefined_attribute exP exTable 13 _ "y" ⟨.val (.record "R"), .const⟩ "R" exP_table rfl (.inl rfl) rfl
example : check (exP.plug (.bin 13 .add exOne (.litBool 13))) = .error ⟨13, .arith⟩ :=
  rejects_operator_incompatible exP exTable 13 .add _ _ ⟨.val .int, .temp⟩ ⟨.val .bool, .temp⟩ .int .bool
    exP_table rfl rfl rfl rfl rfl
example : check (exP.plug (.un 13 .not exOne)) = .error ⟨13, .notOp⟩ :=
  rejects_unary_operator_incompatible exP exTable 13 .not _ ⟨.val .int, .temp⟩ .int exP_table rfl rfl rfl
example : check (exP.plug (.cond 13 (.id 13 "p") exOne exOne)) = .error ⟨13, .condNotBool⟩ :=
  rejects_nonbool_condition exP exTable 13 _ _ _ ⟨.val .int, .const⟩ ⟨.val .int, .temp⟩ ⟨.val .int, .temp⟩
    exP_table rfl rfl rfl rfl
example : check (exP.plug (.while_ 13 (.litString 13) exOne)) = .error ⟨13, .whileNotBool⟩ :=
  rejects_nonbool_while_condition exP exTable 13 _ _ ⟨.val .string, .temp⟩ ⟨.val .int, .temp⟩ exP_table rfl rfl rfl
-- match e { E::A -> 1; }   (E::B has no guard)
example : check (exP.plug (.match_ 13 (.id 13 "e") (.cons (.item 14 "E" "A" exOne) .nil)))
    = .error ⟨13, .matchMissing⟩ :=
  rejects_match_missing_partial exP exTable 13 _ _ _ ⟨.val (.enum "E"), .const⟩ "E" [⟨.val .int, .temp⟩] "B"
    exP_table rfl rfl rfl rfl rfl (by decide) rfl
-- a function item `func bad() -> int { "s" }` in a block at the hole: diagnostic at the result (line 15)
example : ∃ d, check ((FuncCtx.nested exP 13 .nil .nil .nil (.cons (.expr exOne) .nil)).plug
      (.mk 14 "bad" [] .dflt .int (.seq 15 (.cons (.expr (.litString 15)) .nil)) .nil)) = .error d ∧
    (d.line = 14 ∨ d.line = 15) :=
  rejects_result_kind (.nested exP 13 .nil .nil .nil (.cons (.expr exOne) .nil))
    (funcEnv (match (exTable.push).add 14 "bad" (.func .nil .const .int) with | .ok Γ => Γ | .error _ => default)
      "bad" ⟨[], .const, .int⟩) ⟨[], .const, .int⟩
    14 "bad" [] .dflt .int _ .nil ⟨.val .string, .temp⟩ (by rw [FuncCtx.env, exP_table]; rfl) rfl rfl
    (by intro h; cases h with | num _ _ _ hb => simp [isNum] at hb)
-- a function literal with `catch (no_such_exception)` at the hole
example : check ((FuncCtx.lit exP).plug
      (.mk 14 "" [] .dflt .int (exSeq1 exOne)
        (ExcList.app .nil (.cons (.mk 16 "no_such_exception" (exSeq1 exOne)) .nil)))) = .error ⟨16, .unknownException⟩ :=
  rejects_unknown_exception (.lit exP) (funcEnv exTable "" ⟨[], .const, .int⟩) ⟨[], .const, .int⟩
    14 "" [] .dflt .int _ .nil .nil 16 "no_such_exception" _ (by rw [FuncCtx.env, exP_table]; rfl) rfl rfl
-- a top-level function with an unknown exception in its SECOND catch clause
example : check ((FuncCtx.top exDecls .nil .nil).plug
      (.mk 3 "main" [] .dflt .int (exSeq1 exOne)
        (ExcList.app (.cons (.mk 5 "overflow" (exSeq1 exOne)) .nil)
          (.cons (.mk 6 "Overflow" (exSeq1 exOne)) .nil)))) = .error ⟨6, .unknownException⟩ := by decide +kernel
-- the hole can also be in a catch clause of a top-level function
def exPcatch : ProgCtx :=
  { decls := exDecls, fpre := .nil,
    h := .exc 5 "main" [⟨5, "n", .dflt, .int, []⟩] .dflt .int (exSeq1 exOne) .nil 7 "division_by_zero" .nil,
    fpost := .nil, frames := [.seqExpr 8 .nil (.cons (.expr exOne) .nil)] }
example : check (exPcatch.plug (.ass 8 (.id 8 "n") exOne)) = .error ⟨8, .assignConst⟩ := by decide +kernel
example : ∃ d, check (exP.plug (.while_ 13 (.litInt 13) exOne)) = .error d :=
  rejects_nonbool_condition_anywhere exP 13 13 exOne
-- fragment soundness is not vacuous: 1 + 2L < 3.0 is typable, of type bool
example : ∃ t, (⟨.val .bool, .temp⟩ : Comb).ct = .val t ∧
    HasType exΓ (.bin 1 .lt (.bin 1 .add (.litInt 1) (.litLong 1)) (.litFloat 1)) t := by
  refine ⟨.bool, rfl, ?_⟩
  exact .bin _ _ _ _ .long .float .bool
    (.bin _ _ _ _ .int .long .long (.litInt 1) (.litLong 1) (.arith _ _ _ _ rfl ⟨0, 1, rfl, rfl, rfl⟩))
    (.litFloat 1) (.order _ _ _ .float rfl ⟨1, 2, rfl, rfl, rfl⟩)


def exScalarΓ : Env := ⟨[], [], [[("n", .param .const .int)]]⟩

theorem exScalarΓ_scalar : ScalarEnv exScalarΓ := by
  intro x ent h
  simp only [exScalarΓ, Env.lookup, lookupScopes, Scope.find] at h
  by_cases hx : "n" = x
  · simp [hx] at h; subst h; exact ⟨.int, rfl, rfl⟩
  · simp [hx] at h

example : ∃ t, (⟨.val .bool, .temp⟩ : Comb).ct = .val t ∧
    HasType exScalarΓ (.bin 1 .lt (.bin 1 .add (.id 1 "n") (.litLong 1)) (.litFloat 1)) t :=
  check_sound_partial exScalarΓ _ _ exScalarΓ_scalar
    (.bin _ _ _ _ (.bin _ _ _ _ (.id 1 "n") (.litLong 1)) (.litFloat 1)) rfl


/-- the former known finding as a whole program: `apply(h((int) -> int) -> int)` called with
`k(g(int) -> string)` — rejected at the call (line 3) since 186dfd9 -/
def exSecondOrder : Prog :=
  let fn (r : Ty) : Ty := .func (.cons .dflt .int .nil) .dflt r
  ⟨[], .cons (.mk 1 "apply" [⟨1, "h", .dflt, .func (.cons .dflt (fn .int) .nil) .dflt .int, []⟩] .dflt .int
          (.seq 1 (.cons (.expr (.litInt 1)) .nil)) .nil)
       (.cons (.mk 2 "k" [⟨2, "g", .dflt, fn .string, []⟩] .dflt .int
          (.seq 2 (.cons (.expr (.litInt 2)) .nil)) .nil)
       (.cons (.mk 3 "main" [] .dflt .int
          (.seq 3 (.cons (.expr (.call 3 (.id 3 "apply") (.cons (.id 3 "k") .nil))) .nil)) .nil) .nil))⟩

example : check exSecondOrder = .error ⟨3, .callMismatch⟩ := by decide +kernel

/-! ## D11 — tuples, exact element types, ranges, array literal shape, for-in, pipes, marks -/

/-- the branches of `c ? a : b` / `if (c) a else b` must have types `expr_comb_cmp_and_set`
unifies: whatever rule `combCmp` answers is the diagnostic, at the conditional -/
theorem rejects_branch_mismatch (P : ProgCtx) (Γ : Env) (ln : Ln) (c t e : Expr) (cc ct ce : Comb)
    (r : Rule) (hreach : P.holeEnv = .ok Γ)
    (hc : tc Γ c = .ok cc) (ht : tc Γ t = .ok ct) (he : tc Γ e = .ok ce)
    (hb : isBool cc.ct = true) (hcmp : combCmp ct.ct ce.ct = .error r) :
    check (P.plug (.cond ln c t e)) = .error ⟨ln, r⟩ :=
  P.plug_error Γ _ _ hreach (tc_cond_branches hc ht he hb hcmp)

/-- … in particular two tuples of different shape (number of members) or with a member of a
different type (repair b235435: the pinned tree unified them to the left one) -/
theorem rejects_branch_tuples (P : ProgCtx) (Γ : Env) (ln : Ln) (c t e : Expr) (cc ct ce : Comb)
    (ms1 ms2 : TyList) (hreach : P.holeEnv = .ok Γ)
    (hc : tc Γ c = .ok cc) (ht : tc Γ t = .ok ct) (he : tc Γ e = .ok ce) (hb : isBool cc.ct = true)
    (h1 : ct.ct = .val (.tuple ms1)) (h2 : ce.ct = .val (.tuple ms2))
    (hdiff : ms1.length ≠ ms2.length ∨ paramListCmp false ms1 ms2 = false) :
    check (P.plug (.cond ln c t e)) = .error ⟨ln, .condBranches⟩ := by
  apply rejects_branch_mismatch P Γ ln c t e cc ct ce _ hreach hc ht he hb
  rw [h1, h2]
  apply combCmp_tuple
  cases hdiff with
  | inl h => exact paramListCmp_length false ms1 ms2 h
  | inr h => exact h

/-- … and two ranges of different dimension (repair b996419: the pinned tree read the
CONDITION's type there) -/
theorem rejects_branch_ranges (P : ProgCtx) (Γ : Env) (ln : Ln) (c t e : Expr) (cc ct ce : Comb)
    (n1 n2 : Nat) (hreach : P.holeEnv = .ok Γ)
    (hc : tc Γ c = .ok cc) (ht : tc Γ t = .ok ct) (he : tc Γ e = .ok ce) (hb : isBool cc.ct = true)
    (h1 : ct.ct = .val (.range n1)) (h2 : ce.ct = .val (.range n2)) (hdiff : n1 ≠ n2) :
    check (P.plug (.cond ln c t e)) = .error ⟨ln, .branchRanges⟩ := by
  apply rejects_branch_mismatch P Γ ln c t e cc ct ce _ hreach hc ht he hb
  rw [h1, h2]; exact combCmp_range n1 n2 hdiff

/-- … arrays / slices of different dimension or element type, function types that differ -/
theorem rejects_branch_arrays (P : ProgCtx) (Γ : Env) (ln : Ln) (c t e : Expr) (cc ct ce : Comb)
    (n1 n2 : Nat) (c1 c2 : PCst) (e1 e2 : Ty) (hreach : P.holeEnv = .ok Γ)
    (hc : tc Γ c = .ok cc) (ht : tc Γ t = .ok ct) (he : tc Γ e = .ok ce) (hb : isBool cc.ct = true)
    (h1 : ct.ct = .val (.array n1 c1 e1)) (h2 : ce.ct = .val (.array n2 c2 e2))
    (hdiff : (n1 == n2 && paramCmp false c1 e1 c2 e2) = false) :
    check (P.plug (.cond ln c t e)) = .error ⟨ln, .branchArrays⟩ := by
  apply rejects_branch_mismatch P Γ ln c t e cc ct ce _ hreach hc ht he hb
  rw [h1, h2]; exact combCmp_array n1 n2 c1 c2 e1 e2 hdiff

theorem rejects_branch_slices (P : ProgCtx) (Γ : Env) (ln : Ln) (c t e : Expr) (cc ct ce : Comb)
    (n1 n2 : Nat) (c1 c2 : PCst) (e1 e2 : Ty) (hreach : P.holeEnv = .ok Γ)
    (hc : tc Γ c = .ok cc) (ht : tc Γ t = .ok ct) (he : tc Γ e = .ok ce) (hb : isBool cc.ct = true)
    (h1 : ct.ct = .val (.slice n1 c1 e1)) (h2 : ce.ct = .val (.slice n2 c2 e2))
    (hdiff : (n1 == n2 && paramCmp false c1 e1 c2 e2) = false) :
    check (P.plug (.cond ln c t e)) = .error ⟨ln, .branchSlices⟩ := by
  apply rejects_branch_mismatch P Γ ln c t e cc ct ce _ hreach hc ht he hb
  rw [h1, h2]; exact combCmp_slice n1 n2 c1 c2 e1 e2 hdiff

theorem rejects_branch_functions (P : ProgCtx) (Γ : Env) (ln : Ln) (c t e : Expr) (cc ct ce : Comb)
    (ps1 ps2 : TyList) (c1 c2 : PCst) (r1 r2 : Ty) (hreach : P.holeEnv = .ok Γ)
    (hc : tc Γ c = .ok cc) (ht : tc Γ t = .ok ct) (he : tc Γ e = .ok ce) (hb : isBool cc.ct = true)
    (h1 : ct.ct = .val (.func ps1 c1 r1)) (h2 : ce.ct = .val (.func ps2 c2 r2))
    (hdiff : funcCmp ps1 c1 r1 ps2 c2 r2 = false) :
    check (P.plug (.cond ln c t e)) = .error ⟨ln, .branchFuncs⟩ := by
  apply rejects_branch_mismatch P Γ ln c t e cc ct ce _ hreach hc ht he hb
  rw [h1, h2]; exact combCmp_func ps1 ps2 c1 c2 r1 r2 hdiff

/-- the branches of `if let (En::it = e) t else f` (item guard) must agree like those of `?:` -/
theorem rejects_iflet_branches (P : ProgCtx) (Γ : Env) (ln gln : Ln) (en it : String) (e t f : Expr)
    (ce ct cf : Comb) (r : Rule) (hreach : P.holeEnv = .ok Γ)
    (he : tc Γ e = .ok ce) (hen : ce.ct = .val (.enum en)) (hg : guardItemPre Γ gln en it = .ok ())
    (ht : tc Γ t = .ok ct) (hf : tc Γ f = .ok cf) (hcmp : combCmp ct.ct cf.ct = .error r) :
    check (P.plug (.ifLet ln gln en it e t f)) = .error ⟨ln, r⟩ :=
  P.plug_error Γ _ _ hreach (tc_iflet_branches he hen hg ht hf hcmp)

/-- … and its guard must name the enum of the tested value -/
theorem rejects_iflet_other_enum (P : ProgCtx) (Γ : Env) (ln gln : Ln) (en en' it : String) (e t f : Expr)
    (ce ct cf : Comb) (hreach : P.holeEnv = .ok Γ)
    (he : tc Γ e = .ok ce) (hen : ce.ct = .val (.enum en')) (hg : guardItemPre Γ gln en it = .ok ())
    (ht : tc Γ t = .ok ct) (hf : tc Γ f = .ok cf) (hne : en' ≠ en) :
    check (P.plug (.ifLet ln gln en it e t f)) = .error ⟨ln, .matchGuardDiffers⟩ :=
  P.plug_error Γ _ _ hreach (tc_iflet_other_enum he hen hg ht hf hne)

/-- the arms of an exhaustive `match` are compared the same way, the first with each later one -/
theorem rejects_match_arms_mismatch (P : ProgCtx) (Γ : Env) (ln : Ln) (s : Expr) (g : Guard)
    (gs : GuardList) (cs : Comb) (en : String) (a : Comb) (rest : List Comb) (r : Rule)
    (hreach : P.holeEnv = .ok Γ) (hs : tc Γ s = .ok cs) (hen : cs.ct = .val (.enum en))
    (hg : tcGuards Γ (.cons g gs) = .ok (a :: rest)) (hsame : guardsSameEnum en (.cons g gs) = .ok ())
    (hex : exhaustive Γ en (.cons g gs) = true) (hcmp : armsCmp a.ct rest = .error r) :
    check (P.plug (.match_ ln s (.cons g gs))) = .error ⟨ln, r⟩ :=
  P.plug_error Γ _ _ hreach (tc_match_arms hs hen hg hsame hex hcmp)

/-- RECORDED false rejection (not a rule): `param_cmp` has no case for `long` and none for
`double`, so two IDENTICAL types that mention one of them compare as different — an array of
long is not accepted where an array of long is declared, `c ? [1L] : [2L]` is refused.  The
model mirrors the code; seed C06-7 ("add the missing cases" as one case) is the wrong repair. -/
theorem param_cmp_long_double_false_rejection_counterexample :
    paramCmp false .var .long .var .long = false ∧ paramCmp false .var .double .var .double = false ∧
    paramExprCmp true .const (.array 1 .var .long) 1 ⟨.val (.array 1 .var .long), .temp⟩ = .fail none ∧
    combCmp (.val (.array 1 .var .long)) (.val (.array 1 .var .long)) = .error .branchArrays ∧
    -- and, as it should be, long is not double inside a container
    paramCmp false .var .long .var .double = false :=
  ⟨rfl, rfl, rfl, rfl, rfl⟩

/-- a tuple literal with a number of values different from its declared members -/
theorem rejects_tuple_arity (P : ProgCtx) (Γ : Env) (ln : Ln) (elems : ExprList) (ms ms' : TyList)
    (cs : List (Ln × Comb)) (hreach : P.holeEnv = .ok Γ)
    (he : tcArgs Γ elems = .ok cs) (hm : resolveTys Γ ms.defaultVar = .ok ms')
    (hlen : ms'.toList.length ≠ cs.length) :
    check (P.plug (.tuple ln elems ms)) = .error ⟨ln, .tupleForm⟩ :=
  P.plug_error Γ _ _ hreach (tc_tuple_arity he hm hlen)

/-- a tuple literal with a value of a kind its declared member does not accept; the diagnostic
is at the literal or at the value -/
theorem rejects_tuple_member_kind (P : ProgCtx) (Γ : Env) (ln : Ln) (elems : ExprList) (ms ms' : TyList)
    (cs : List (Ln × Comb)) (hreach : P.holeEnv = .ok Γ)
    (he : tcArgs Γ elems = .ok cs) (hm : resolveTys Γ ms.defaultVar = .ok ms')
    (hbad : SomeArgRejected ms'.toList cs) :
    ∃ d, check (P.plug (.tuple ln elems ms)) = .error d ∧ (d.line = ln ∨ ∃ a ∈ cs, d.line = a.1) := by
  obtain ⟨d, hd, hl⟩ := tc_tuple_kind he hm hbad
  exact ⟨d, P.plug_error Γ _ _ hreach hd, hl⟩

/-- projection `t[i]` with a literal index beyond the members of the tuple -/
theorem rejects_tuple_index (P : ProgCtx) (Γ : Env) (ln iln : Ln) (e : Expr) (i : Nat) (c : Comb)
    (ms : TyList) (hreach : P.holeEnv = .ok Γ) (he : tc Γ e = .ok c) (hct : c.ct = .val (.tuple ms))
    (hi : ms.length ≤ i) :
    check (P.plug (.proj ln e iln i)) = .error ⟨ln, .tupleIndex⟩ :=
  P.plug_error Γ _ _ hreach (tc_proj_bounds he hct (TyList.get?_none ms i hi))

/-- array literal shape (tcheckarr.c): a literal of rows `[ r_1, …, r_k, r_last ] : T` (each row
a list of well-typed elements) in which some row has not the length of the last one — an EMPTY
row included (seeds C01-6 / C12-7 dropped exactly that disjunct) — is refused.  The C code
prints this first diagnostic at line 0 (a row carries no line), then "array is not well formed"
at the literal. -/
theorem rejects_array_shape (P : ProgCtx) (Γ : Env) (ln : Ln) (elems : ExprList) (ec : PCst)
    (ety et : Ty) (cnts : List Nat) (n : Nat) (leaves : List Item) (hreach : P.holeEnv = .ok Γ)
    (hrows : tcRows Γ elems = .ok [(cnts ++ [n]).map Item.sub, leaves])
    (hty : resolveTy Γ ety = .ok et)
    (hleaves : checkDeepest ec.normVar et leaves.reverse = .ok ())
    (hdiff : ∃ m ∈ cnts, m ≠ n) :
    check (P.plug (.array ln elems ec ety)) = .error ⟨0, .arrayShape⟩ :=
  P.plug_error Γ _ _ hreach (tc_array_ragged hrows hty hleaves hdiff)

/-- for-in constness (tcforin.c): the iterator of `for (x in a)` over a CONST one-dimensional
array (`let` binding, parameter not declared `var`) is CONST; `x = …` in the body is refused at
the assignment (seeds C06-6 / C06-9 lost exactly this) -/
theorem rejects_forin_iterator_assign (P : ProgCtx) (Γ : Env) (ln la lx : Ln) (x : String)
    (a rhs : Expr) (ca cr : Comb) (ec : PCst) (et : Ty) (hreach : P.holeEnv = .ok Γ)
    (ha : tc Γ a = .ok ca) (hct : ca.ct = .val (.array 1 ec et)) (hconst : ca.cst = .const)
    (hr : tc (Γ.push [(x, .forin ⟨.val et, .const⟩)]) rhs = .ok cr) :
    check (P.plug (.forIn ln x a (.ass la (.id lx x) rhs))) = .error ⟨la, .assignConst⟩ :=
  P.plug_error Γ _ _ hreach (tc_forin_assign_const ha hct rfl hconst hr)

/-- … and the iterator of a for-in over a range, always -/
theorem rejects_forin_range_iterator_assign (P : ProgCtx) (Γ : Env) (ln la lx : Ln) (x : String)
    (a rhs : Expr) (ca cr : Comb) (hreach : P.holeEnv = .ok Γ)
    (ha : tc Γ a = .ok ca) (hct : ca.ct = .val (.range 1))
    (hr : tc (Γ.push [(x, .forin ⟨.val .int, .const⟩)]) rhs = .ok cr) :
    check (P.plug (.forIn ln x a (.ass la (.id lx x) rhs))) = .error ⟨la, .assignConst⟩ :=
  P.plug_error Γ _ _ hreach (tc_forin_assign_range ha hct hr)

/-- pipe arity (`param_list_expr_expr_list_cmp`): `l |> f(args)` with `l` not a tuple and accepted
by the first parameter: too few AND too many explicit arguments (seed C06-5 dropped the surplus
test) are refused at the pipe -/
theorem rejects_pipe_arity (P : ProgCtx) (Γ : Env) (ln : Ln) (l f : Expr) (args : ExprList)
    (cl cf : Comb) (cs : List (Ln × Comb)) (pc : PCst) (pt : Ty) (ps : TyList) (rc : PCst) (r : Ty)
    (hreach : P.holeEnv = .ok Γ)
    (hl : tc Γ l = .ok cl) (hnt : ∀ ms, cl.ct ≠ .val (.tuple ms))
    (hf : tc Γ f = .ok cf) (hct : cf.ct = .val (.func (.cons pc pt ps) rc r))
    (ha : tcArgs Γ args = .ok cs) (hfirst : paramExprCmp true pc pt l.ln cl = .ok)
    (hlen : ps.toList.length ≠ cs.length) :
    check (P.plug (.pipe ln l f args)) = .error ⟨ln, .callMismatch⟩ :=
  P.plug_error Γ _ _ hreach (tc_pipe_arity hl hnt hf hct ha hfirst hlen)

/-- a function without parameters takes no piped value (scalar or tuple) -/
theorem rejects_pipe_into_nullary (P : ProgCtx) (Γ : Env) (ln : Ln) (l f : Expr) (args : ExprList)
    (cl cf : Comb) (cs : List (Ln × Comb)) (rc : PCst) (r : Ty) (hreach : P.holeEnv = .ok Γ)
    (hl : tc Γ l = .ok cl) (hf : tc Γ f = .ok cf) (hct : cf.ct = .val (.func .nil rc r))
    (ha : tcArgs Γ args = .ok cs) :
    check (P.plug (.pipe ln l f args)) = .error ⟨ln, .callMismatch⟩ :=
  P.plug_error Γ _ _ hreach (tc_pipe_noparams hl hf hct ha)

/-- tuple unpacking: `t |> f(args)` — members and explicit arguments together must be as many
as the parameters -/
theorem rejects_pipe_tuple_arity (P : ProgCtx) (Γ : Env) (ln : Ln) (l f : Expr) (args : ExprList)
    (cl cf : Comb) (cs : List (Ln × Comb)) (ms ps : TyList) (rc : PCst) (r : Ty)
    (hreach : P.holeEnv = .ok Γ)
    (hl : tc Γ l = .ok cl) (hlt : cl.ct = .val (.tuple ms))
    (hf : tc Γ f = .ok cf) (hct : cf.ct = .val (.func ps rc r)) (ha : tcArgs Γ args = .ok cs)
    (hlen : ps.toList.length ≠ ms.toList.length + cs.length) :
    check (P.plug (.pipe ln l f args)) = .error ⟨ln, .callMismatch⟩ :=
  P.plug_error Γ _ _ hreach (tc_pipe_tuple_arity hl hlt hf hct ha hlen)

/-- match exhaustiveness on the SHARED mark flags (tcmatch.c): whatever matches were checked
before — any number, over any enums, with or without `else`, leaving whatever marks `m0` and
their own marks behind — the exhaustiveness test of a match without `else` that leaves the
enumerator `it` without a guard answers "not covered", and the program is refused at the match.
(Seeds C06-4 / C01-7 made the verdict depend on the earlier matches.)  Guard list not empty:
see `rejects_match_missing_counterexample`. -/
theorem rejects_missing_enumerator (P : ProgCtx) (Γ : Env) (ln : Ln) (s : Expr) (g : Guard)
    (gs : GuardList) (cs : Comb) (en : String) (arms : List Comb) (it : String)
    (earlier : List (String × GuardList)) (m0 : Marks)
    (hreach : P.holeEnv = .ok Γ) (hs : tc Γ s = .ok cs) (hen : cs.ct = .val (.enum en))
    (hg : tcGuards Γ (.cons g gs) = .ok arms) (hsame : guardsSameEnum en (.cons g gs) = .ok ())
    (hnoelse : hasElse (.cons g gs) = false)
    (hit : it ∈ Γ.enumItems en) (hmiss : coversItem it (.cons g gs) = false) :
    (exhaustiveM Γ en (.cons g gs) (runMatches Γ earlier m0)).1 = false ∧
    check (P.plug (.match_ ln s (.cons g gs))) = .error ⟨ln, .matchMissing⟩ := by
  have hex : exhaustive Γ en (.cons g gs) = false :=
    (not_exhaustive_iff Γ en _).2 ⟨hnoelse, it, hit, hmiss⟩
  exact ⟨by rw [exhaustiveM_fst]; exact hex,
    P.plug_error Γ _ _ hreach (tc_match_missing hs hen hg hsame hex)⟩

/-! ### enum records -/

/-- `En::it(args)` with a number of arguments other than the fields of the enumerator -/
theorem rejects_ctor_arity (P : ProgCtx) (Γ : Env) (ln : Ln) (e : Expr) (it s : String) (args : ExprList)
    (ce : Comb) (cs : List (Ln × Comb)) (fs : List Field) (hreach : P.holeEnv = .ok Γ)
    (he : tc Γ e = .ok ce) (hct : ce.ct = .enumId s) (hit : Γ.hasItem s it = true)
    (ha : tcArgs Γ args = .ok cs) (hf : Γ.enumRecFields s it = some fs) (hlen : fs.length ≠ cs.length) :
    check (P.plug (.ctor ln e it args)) = .error ⟨ln, .enumCreate⟩ :=
  P.plug_error Γ _ _ hreach (tc_ctor_arity he hct hit ha hf hlen)

/-- … with an argument of a kind the field does not accept (diagnostic at the constructor or at
the argument) -/
theorem rejects_ctor_kind (P : ProgCtx) (Γ : Env) (ln : Ln) (e : Expr) (it s : String) (args : ExprList)
    (ce : Comb) (cs : List (Ln × Comb)) (fs : List Field) (hreach : P.holeEnv = .ok Γ)
    (he : tc Γ e = .ok ce) (hct : ce.ct = .enumId s) (hit : Γ.hasItem s it = true)
    (ha : tcArgs Γ args = .ok cs) (hf : Γ.enumRecFields s it = some fs)
    (hbad : SomeArgRejected (fs.map fun f => (f.cst, f.ty)) cs) :
    ∃ d, check (P.plug (.ctor ln e it args)) = .error d ∧ (d.line = ln ∨ ∃ a ∈ cs, d.line = a.1) := by
  obtain ⟨d, hd, hl⟩ := tc_ctor_kind he hct hit ha hf hbad
  exact ⟨d, P.plug_error Γ _ _ hreach hd, hl⟩

/-- … and a plain enumerator is not a constructor -/
theorem rejects_ctor_of_plain_enumerator (P : ProgCtx) (Γ : Env) (ln : Ln) (e : Expr) (it s : String)
    (args : ExprList) (ce : Comb) (cs : List (Ln × Comb)) (hreach : P.holeEnv = .ok Γ)
    (he : tc Γ e = .ok ce) (hct : ce.ct = .enumId s) (hit : Γ.hasItem s it = true)
    (ha : tcArgs Γ args = .ok cs) (hf : Γ.enumRecFields s it = none) :
    check (P.plug (.ctor ln e it args)) = .error ⟨ln, .enumCreate⟩ :=
  P.plug_error Γ _ _ hreach (tc_ctor_plain he hct hit ha hf)

/-- a record guard `En::it(x, …) -> …` of a match (`pre` are the guards before it) whose number
of binds is not the number of fields of the enumerator: refused at the guard (52cb4aa: without
walking the missing list) -/
theorem rejects_guard_bind_count (P : ProgCtx) (Γ : Env) (ln gln : Ln) (s : Expr) (en it : String)
    (binds : List (Ln × String)) (e : Expr) (gs : GuardList) (cs : Comb) (en' : String) (pre : GuardList)
    (arms : List Comb) (hreach : P.holeEnv = .ok Γ)
    (hs : tc Γ s = .ok cs) (hen : cs.ct = .val (.enum en')) (hpre : tcGuards Γ pre = .ok arms)
    (hg : guardItemPre Γ gln en it = .ok ())
    (hbad : guardBindsOk Γ gln en it binds = .error ⟨gln, .guardBinds⟩) :
    check (P.plug (.match_ ln s (pre.app (.cons (.recd gln en it binds e) gs)))) = .error ⟨gln, .guardBinds⟩ :=
  P.plug_error Γ _ _ hreach (tc_match_guard_binds hs hen hpre hg hbad)

/-- … the same in `if let (En::it(x, …) = e)` -/
theorem rejects_iflet_bind_count (P : ProgCtx) (Γ : Env) (ln gln : Ln) (en it : String)
    (binds : List (Ln × String)) (e t f : Expr) (ce : Comb) (en' : String) (hreach : P.holeEnv = .ok Γ)
    (he : tc Γ e = .ok ce) (hen : ce.ct = .val (.enum en')) (hg : guardItemPre Γ gln en it = .ok ())
    (hbad : guardBindsOk Γ gln en it binds = .error ⟨gln, .guardBinds⟩) :
    check (P.plug (.ifLetRec ln gln en it binds e t f)) = .error ⟨gln, .guardBinds⟩ :=
  P.plug_error Γ _ _ hreach (tc_ifletrec_binds he hen hg hbad)

/-- a record guard that does not resolve (unknown enum, unknown enumerator, a name that is not
an enum): refused with the diagnostic of the resolution, at the guard -/
theorem rejects_guard_unknown_enumerator (P : ProgCtx) (Γ : Env) (ln gln : Ln) (s : Expr) (en it : String)
    (binds : List (Ln × String)) (e : Expr) (gs : GuardList) (cs : Comb) (en' : String) (pre : GuardList)
    (arms : List Comb) (d : Diag) (hreach : P.holeEnv = .ok Γ)
    (hs : tc Γ s = .ok cs) (hen : cs.ct = .val (.enum en')) (hpre : tcGuards Γ pre = .ok arms)
    (hg : guardItemPre Γ gln en it = .error d) :
    check (P.plug (.match_ ln s (pre.app (.cons (.recd gln en it binds e) gs)))) = .error d :=
  P.plug_error Γ _ _ hreach (tc_match_guard_unknown hs hen hpre hg)

/-- guards that all resolve, one of them — item or record guard — of ANOTHER enum than the
matched value: "enums are different", at that guard (enums are compared by identity, so a
same-named, same-shaped enum of another module is another enum: modules are outside the model,
corpus/tc_neg/nominal_* hold those cases) -/
theorem rejects_guard_other_enum (P : ProgCtx) (Γ : Env) (ln : Ln) (s : Expr) (g : Guard) (gs : GuardList)
    (cs : Comb) (en : String) (arms : List Comb) (d : Diag) (hreach : P.holeEnv = .ok Γ)
    (hs : tc Γ s = .ok cs) (hen : cs.ct = .val (.enum en))
    (hg : tcGuards Γ (.cons g gs) = .ok arms) (hsame : guardsSameEnum en (.cons g gs) = .error d) :
    check (P.plug (.match_ ln s (.cons g gs))) = .error d :=
  P.plug_error Γ _ _ hreach (tc_match_guard_other_enum hs hen hg hsame)

/-- a main unit without any function (declarations only, or nothing) is refused, at line 1
(bad4904: `main_check_type` used to walk the NULL list) -/
theorem rejects_empty_main_unit (ds : List Decl) (Γ : Env) (hd : globalEnv ds = .ok Γ) :
    check ⟨ds, .nil⟩ = .error ⟨1, .emptyMainUnit⟩ := by
  simp [check, hd, nonEmptyUnit]

/-- a top-level function item without a name is refused at its line (0b116cb: the NULL name
used to be hashed); `fpre` are the functions declared before it -/
theorem rejects_nameless_function (ds : List Decl) (Γ Γ1 : Env) (fpre fpost : FuncList) (ss : List Sig)
    (f : Func) (hd : globalEnv ds = .ok Γ) (hpre : declFuncs Γ fpre = .ok (Γ1, ss)) (hn : f.name = "") :
    check ⟨ds, fpre.app (.cons f fpost)⟩ = .error ⟨f.ln, .funcNoName⟩ := by
  rw [check_eq]
  simp [hd, nonEmptyUnit_app, declFuncs_app_noname Γ Γ1 fpre ss f fpost hpre hn]

/-- … and so is one that is an item of a block, in any context (a function LITERAL,
`let func (…) -> …`, has no name and needs none) -/
theorem rejects_nameless_function_item (P : ProgCtx) (Γ Γ1 Γ2 : Env) (ln : Ln) (pre post : SeqList)
    (fpre fpost : FuncList) (ss : List Sig) (f : Func) (hreach : P.holeEnv = .ok Γ)
    (hpre : seqEnv Γ.push pre = .ok Γ1) (hf : declFuncs Γ1 fpre = .ok (Γ2, ss)) (hn : f.name = "") :
    check (P.plug (.seq ln (pre.app (.cons (.funcs (fpre.app (.cons f fpost))) post))))
      = .error ⟨f.ln, .funcNoName⟩ :=
  P.plug_error Γ _ _ hreach (tc_seq_noname hpre hf hn)

/-! ### known acceptances of the tree (corpus/tc_known), visible as theorems: the model, which
mirrors the code, ACCEPTS each of these programs that break a static rule -/

def exArr4 : Expr := .array 3 (.cons (.litInt 3) (.cons (.litInt 3) (.cons (.litInt 3) (.cons (.litInt 3) .nil)))) .dflt .int
def exMain (body : SeqList) : Func := .mk 1 "main" [] .dflt .int (.seq 6 body) .nil

/-- `let a = [1,2,3,4] : int; a[1 .. 2][0] = 7; a[1]` — an element of a `let` array assigned
through a slice of it (`expr_slice_check_type` leaves the slice TEMP) -/
theorem const_lost_through_slice_assign_accepted_counterexample :
    check ⟨[], .cons (exMain
      (.cons (.bind 3 false "a" exArr4)
      (.cons (.expr (.ass 4 (.proj 4 (.slice 4 (.id 4 "a") (.cons (.litInt 4) (.cons (.litInt 4) .nil))) 4 0) (.litInt 4)))
      (.cons (.expr (.proj 5 (.id 5 "a") 5 1)) .nil)))) .nil⟩ = .ok () := by decide +kernel

/-- `for (e in a[1 .. 2]) { e = 0 }` over a slice of a `let` array -/
theorem const_lost_through_slice_forin_accepted_counterexample :
    check ⟨[], .cons (exMain
      (.cons (.bind 3 false "a" exArr4)
      (.cons (.expr (.forIn 4 "e" (.slice 4 (.id 4 "a") (.cons (.litInt 4) (.cons (.litInt 4) .nil)))
                (.seq 4 (.cons (.expr (.ass 4 (.id 4 "e") (.litInt 4))) .nil))))
      (.cons (.expr (.proj 5 (.id 5 "a") 5 1)) .nil)))) .nil⟩ = .ok () := by decide +kernel

/-- `let t = (1, 2) : (int, int); t |> f()` with `f(var a : int, var b : int)`: members of a
`let` tuple reach `var` parameters (the tuple pipe compares with `const_cmp = false`) -/
theorem const_tuple_members_to_var_params_accepted_counterexample :
    check ⟨[], .cons (.mk 1 "f" [⟨1, "a", .var, .int, []⟩, ⟨1, "b", .var, .int, []⟩] .dflt .int
        (.seq 1 (.cons (.expr (.ass 1 (.id 1 "a") (.litInt 1))) (.cons (.expr (.id 1 "a")) .nil))) .nil)
      (.cons (.mk 2 "main" [] .dflt .int (.seq 6
        (.cons (.bind 4 false "t" (.tuple 4 (.cons (.litInt 4) (.cons (.litInt 4) .nil))
            (.cons .dflt .int (.cons .dflt .int .nil))))
        (.cons (.expr (.pipe 5 (.id 5 "t") (.id 5 "f") .nil))
        (.cons (.expr (.litInt 6)) .nil)))) .nil) .nil)⟩ = .ok () := by decide +kernel

/-- `func f() -> var [_] : int { [1,2,3] : int } catch (division_by_zero) { let a = [1] : int; a }`:
the value of a catch clause is compared with `const_cmp = false` -/
theorem catch_clause_const_for_var_result_accepted_counterexample :
    check ⟨[], .cons (.mk 1 "f" [] .var (.array 1 .dflt .int)
        (.seq 1 (.cons (.expr (.array 1 (.cons (.litInt 1) .nil) .dflt .int)) .nil))
        (.cons (.mk 1 "division_by_zero"
          (.seq 1 (.cons (.bind 1 false "a" (.array 1 (.cons (.litInt 1) .nil) .dflt .int))
                  (.cons (.expr (.id 1 "a")) .nil)))) .nil))
      (.cons (.mk 2 "main" [] .dflt .int (.seq 2 (.cons (.expr (.litInt 2)) .nil)) .nil) .nil)⟩ = .ok () := by decide +kernel

/-- `func f(r[a .. b] : range) -> int { a = 4; 0 }` — the bound names of a range parameter that
is NOT `var` are assignable (`param_new_range_dim` makes them VAR; the assignment writes the
caller's cell: docs/D3-findings/const-changed-through-range-bound-name.nev) -/
theorem range_bound_name_assign_accepted_counterexample :
    check ⟨[], .cons (.mk 1 "f" [⟨1, "r", .dflt, .range 1, [(1, "a"), (1, "b")]⟩] .dflt .int
        (.seq 4 (.cons (.expr (.ass 3 (.id 3 "a") (.litInt 3))) (.cons (.expr (.litInt 4)) .nil))) .nil)
      (.cons (.mk 6 "main" [] .dflt .int (.seq 9
        (.cons (.bind 8 false "k" (.litInt 8))
        (.cons (.expr (.call 9 (.id 9 "f") (.cons (.range 9 (.cons (.id 9 "k") (.cons (.litInt 9) .nil))) .nil))) .nil))) .nil) .nil)⟩
      = .ok () := by decide +kernel

/-- the same for the bound names of a slice parameter `s[a .. b] : int` -/
theorem slice_bound_name_assign_accepted_counterexample :
    check ⟨[], .cons (.mk 1 "f" [⟨1, "s", .dflt, .slice 1 .dflt .int, [(1, "a"), (1, "b")]⟩] .dflt .int
        (.seq 4 (.cons (.expr (.ass 3 (.id 3 "a") (.litInt 3))) (.cons (.expr (.id 4 "a")) .nil))) .nil) .nil⟩
      = .ok () := by decide +kernel

/-- … whereas the parameter itself is a constant, and a bound name may not be declared twice -/
example : check ⟨[], .cons (.mk 1 "f" [⟨1, "r", .dflt, .range 1, [(1, "a"), (1, "b")]⟩] .dflt .int
      (.seq 4 (.cons (.expr (.ass 3 (.id 3 "r") (.range 3 (.cons (.litInt 3) (.cons (.litInt 3) .nil)))))
              (.cons (.expr (.litInt 4)) .nil))) .nil) .nil⟩ = .error ⟨3, .assignConst⟩ := by decide +kernel
example : check ⟨[], .cons (.mk 1 "f" [⟨1, "r", .dflt, .range 1, [(1, "a"), (2, "a")]⟩] .dflt .int
      (.seq 4 (.cons (.expr (.litInt 4)) .nil)) .nil) .nil⟩ = .error ⟨2, .redefined⟩ := by decide +kernel

/-- … while the same `let` array as the BODY's value is refused (so the rule exists) -/
example :
    check ⟨[], .cons (.mk 1 "f" [] .var (.array 1 .dflt .int)
        (.seq 1 (.cons (.bind 1 false "a" (.array 1 (.cons (.litInt 1) .nil) .dflt .int))
                (.cons (.expr (.id 1 "a")) .nil))) .nil) .nil⟩ = .error ⟨1, .constToVarParam⟩ := by decide +kernel

/-! ### non-vacuity of the D11 theorems, in the five-level context `exP` -/

def exTup (a b : Expr) (ta tb : Ty) : Expr :=
  .tuple 13 (.cons a (.cons b .nil)) (.cons .dflt ta (.cons .dflt tb .nil))
def exTy2 (ta tb : Ty) : TyList := .cons .var ta (.cons .var tb .nil)

-- p == 1 ? (1, 2) : (int, int) : ("s", 1.5, 3) : (string, float, int)
example : check (exP.plug (.cond 13 (.litBool 13) (exTup exOne exOne .int .int)
      (.tuple 13 (.cons (.litString 13) (.cons (.litFloat 13) (.cons exOne .nil)))
        (.cons .dflt .string (.cons .dflt .float (.cons .dflt .int .nil))))))
    = .error ⟨13, .condBranches⟩ :=
  rejects_branch_tuples exP exTable 13 _ _ _ ⟨.val .bool, .temp⟩ ⟨.val (.tuple (exTy2 .int .int)), .temp⟩
    ⟨.val (.tuple (.cons .var .string (.cons .var .float (.cons .var .int .nil)))), .temp⟩ _ _
    exP_table rfl rfl rfl rfl rfl rfl (.inl (by decide))
-- same shape, one member of another type
example : check (exP.plug (.cond 13 (.litBool 13) (exTup exOne exOne .int .int)
      (exTup (.litString 13) exOne .string .int))) = .error ⟨13, .condBranches⟩ :=
  rejects_branch_tuples exP exTable 13 _ _ _ ⟨.val .bool, .temp⟩ ⟨.val (.tuple (exTy2 .int .int)), .temp⟩
    ⟨.val (.tuple (exTy2 .string .int)), .temp⟩ _ _ exP_table rfl rfl rfl rfl rfl rfl (.inr rfl)
-- true ? [1 .. 2] : [1 .. 2, 1 .. 3]
example : check (exP.plug (.cond 13 (.litBool 13) (.range 13 (.cons exOne (.cons exOne .nil)))
      (.range 13 (.cons exOne (.cons exOne (.cons exOne (.cons exOne .nil))))))) = .error ⟨13, .branchRanges⟩ :=
  rejects_branch_ranges exP exTable 13 _ _ _ ⟨.val .bool, .temp⟩ ⟨.val (.range 1), .temp⟩ ⟨.val (.range 2), .temp⟩
    1 2 exP_table rfl rfl rfl rfl rfl rfl (by decide)
-- true ? a : [[1]] : int     (one against two dimensions)
example : check (exP.plug (.cond 13 (.litBool 13) (.id 13 "a")
      (.array 13 (.cons (.sub (.cons exOne .nil)) .nil) .dflt .int))) = .error ⟨13, .branchArrays⟩ :=
  rejects_branch_arrays exP exTable 13 _ _ _ ⟨.val .bool, .temp⟩ ⟨.val (.array 1 .var .int), .const⟩
    ⟨.val (.array 2 .var .int), .temp⟩ 1 2 .var .var .int .int exP_table rfl rfl rfl rfl rfl rfl rfl
-- match e { E::A -> (1, 2) : (int, int); E::B -> ("s", 2) : (string, int); }
example : check (exP.plug (.match_ 13 (.id 13 "e")
      (.cons (.item 14 "E" "A" (exTup exOne exOne .int .int))
      (.cons (.item 15 "E" "B" (exTup (.litString 15) exOne .string .int)) .nil))))
    = .error ⟨13, .condBranches⟩ :=
  rejects_match_arms_mismatch exP exTable 13 _ _ _ ⟨.val (.enum "E"), .const⟩ "E"
    ⟨.val (.tuple (exTy2 .int .int)), .temp⟩ [⟨.val (.tuple (exTy2 .string .int)), .temp⟩] _
    exP_table rfl rfl rfl rfl rfl rfl
-- if let (E::A = e) (1, 2) : (int, int) else ("s", 2) : (string, int)
example : check (exP.plug (.ifLet 13 13 "E" "A" (.id 13 "e") (exTup exOne exOne .int .int)
      (exTup (.litString 13) exOne .string .int))) = .error ⟨13, .condBranches⟩ :=
  rejects_iflet_branches exP exTable 13 13 "E" "A" _ _ _ ⟨.val (.enum "E"), .const⟩
    ⟨.val (.tuple (exTy2 .int .int)), .temp⟩ ⟨.val (.tuple (exTy2 .string .int)), .temp⟩ _
    exP_table rfl rfl rfl rfl rfl rfl
example : check (exP.plug (.ifLet 13 13 "E" "A" (.id 13 "e") exOne exOne)) = .ok () := by decide +kernel
-- the hole in the else branch of an if-let
example : check (ProgCtx.plug { exP with frames := exFrames ++ [Frame.ifLetF 13 13 "E" "B" (.id 13 "e") exOne] } (.id 14 "nosuch"))
    = .error ⟨14, .undefId⟩ := by decide +kernel
-- (1, 2) : (int, int, int)
example : check (exP.plug (.tuple 13 (.cons exOne (.cons exOne .nil))
      (.cons .dflt .int (.cons .dflt .int (.cons .dflt .int .nil))))) = .error ⟨13, .tupleForm⟩ :=
  rejects_tuple_arity exP exTable 13 _ _ (.cons .var .int (.cons .var .int (.cons .var .int .nil)))
    [(1, ⟨.val .int, .temp⟩), (1, ⟨.val .int, .temp⟩)] exP_table rfl rfl (by decide)
-- ("s", 2) : (int, int): the diagnostic is at the value (line 14)
example : check (exP.plug (exTup (.litString 14) exOne .int .int)) = .error ⟨14, .paramKind⟩ := by decide +kernel
example : ∃ d, check (exP.plug (exTup (.litString 14) exOne .int .int)) = .error d ∧
    (d.line = 13 ∨ ∃ a ∈ [(14, (⟨.val .string, .temp⟩ : Comb)), (1, ⟨.val .int, .temp⟩)], d.line = a.1) :=
  rejects_tuple_member_kind exP exTable 13 _ _ (exTy2 .int .int) _ exP_table rfl rfl
    (.inl (by intro h; cases h with | num _ _ _ hb => simp [isNum] at hb))
-- ((1, 2) : (int, int))[2]
example : check (exP.plug (.proj 13 (exTup exOne exOne .int .int) 13 2)) = .error ⟨13, .tupleIndex⟩ :=
  rejects_tuple_index exP exTable 13 13 _ 2 ⟨.val (.tuple (exTy2 .int .int)), .temp⟩ _ exP_table rfl rfl (by decide)
example : check (exP.plug (.proj 13 (exTup exOne exOne .int .int) 13 1)) = .ok () := by decide +kernel
-- [ [ ], [ 1, 1 ] ] : int   (the literal of seed C01-6), [ [1], [1, 1] ] : int, and a rectangular one
example : check (exP.plug (.array 13 (.cons (.sub .nil) (.cons (.sub (.cons exOne (.cons exOne .nil))) .nil)) .dflt .int))
    = .error ⟨0, .arrayShape⟩ :=
  rejects_array_shape exP exTable 13 _ .dflt .int .int [0] 2 [.leaf 1 ⟨.val .int, .temp⟩, .leaf 1 ⟨.val .int, .temp⟩]
    exP_table rfl rfl rfl ⟨0, by simp, by decide⟩
example : check (exP.plug (.array 13 (.cons (.sub (.cons exOne .nil)) (.cons (.sub (.cons exOne (.cons exOne .nil))) .nil)) .dflt .int))
    = .error ⟨0, .arrayShape⟩ := by decide +kernel
example : check (exP.plug (.array 13 (.cons (.sub (.cons exOne (.cons exOne .nil))) (.cons (.sub .nil) .nil)) .dflt .int))
    = .error ⟨0, .arrayShape⟩ := by decide +kernel
example : check (exP.plug (.proj 13 (.sup 13 (.deref 13 (.sup 13
      (.array 13 (.cons (.sub (.cons exOne (.cons exOne .nil))) (.cons (.sub (.cons exOne (.cons exOne .nil))) .nil)) .dflt .int))
      (.cons exOne (.cons exOne .nil)))) 13 0)) = .error ⟨13, .derefNonArray⟩ := by decide +kernel
-- for (y in a) y = 1     (a is a `let` array of the enclosing function)
example : check (exP.plug (.forIn 13 "y" (.id 13 "a") (.ass 14 (.id 14 "y") exOne))) = .error ⟨14, .assignConst⟩ :=
  rejects_forin_iterator_assign exP exTable 13 14 14 "y" _ _ ⟨.val (.array 1 .var .int), .const⟩ ⟨.val .int, .temp⟩
    .var .int exP_table rfl rfl rfl rfl
example : check (exP.plug (.forIn 13 "y" (.range 13 (.cons exOne (.cons exOne .nil))) (.ass 14 (.id 14 "y") exOne)))
    = .error ⟨14, .assignConst⟩ :=
  rejects_forin_range_iterator_assign exP exTable 13 14 14 "y" _ _ ⟨.val (.range 1), .temp⟩ ⟨.val .int, .temp⟩
    exP_table rfl rfl rfl
-- 1 |> g(1)   (g has one parameter: a surplus argument), 1 |> g() is fine
example : check (exP.plug (.pipe 13 exOne (.id 13 "g") (.cons exOne .nil))) = .error ⟨13, .callMismatch⟩ :=
  rejects_pipe_arity exP exTable 13 _ _ _ ⟨.val .int, .temp⟩ ⟨.val (.func (.cons .const .int .nil) .const .int), .temp⟩
    [(1, ⟨.val .int, .temp⟩)] .const .int .nil .const .int exP_table rfl (by intro ms h; cases h) rfl rfl rfl rfl
    (by decide)
example : check (exP.plug (.pipe 13 exOne (.id 13 "g") .nil)) = .ok () := by decide +kernel
-- (1, 2) : (int, int) |> g()
example : check (exP.plug (.pipe 13 (exTup exOne exOne .int .int) (.id 13 "g") .nil)) = .error ⟨13, .callMismatch⟩ :=
  rejects_pipe_tuple_arity exP exTable 13 _ _ _ ⟨.val (.tuple (exTy2 .int .int)), .temp⟩
    ⟨.val (.func (.cons .const .int .nil) .const .int), .temp⟩ [] _ _ _ _ exP_table rfl rfl rfl rfl rfl (by decide)
-- 1 |> (let func () -> int { 1 })()
example : check (exP.plug (.pipe 13 exOne (.funcLit (.mk 13 "" [] .dflt .int (exSeq1 exOne) .nil)) .nil))
    = .error ⟨13, .callMismatch⟩ :=
  rejects_pipe_into_nullary exP exTable 13 _ _ _ ⟨.val .int, .temp⟩ ⟨.val (.func .nil .const .int), .temp⟩ [] _ _
    exP_table rfl rfl rfl rfl
-- match e { E::A -> 1; } after two earlier matches over E (one with else naming B — the stale
-- mark of seed C06-4 — one complete), starting from marks on both enumerators
example : (exhaustiveM exΓ "E" (.cons (.item 14 "E" "A" exOne) .nil)
      (runMatches exΓ [("E", .cons (.item 1 "E" "B" exOne) (.cons (.else_ 1 exOne) .nil)),
                       ("E", .cons (.item 1 "E" "A" exOne) (.cons (.item 1 "E" "B" exOne) .nil))]
        [("E", "A"), ("E", "B")])).1 = false ∧
    check (exP.plug (.match_ 13 (.id 13 "e") (.cons (.item 14 "E" "A" exOne) .nil))) = .error ⟨13, .matchMissing⟩ :=
  exΓ_eq ▸ rejects_missing_enumerator exP exTable 13 _ _ _ ⟨.val (.enum "E"), .const⟩ "E" [⟨.val .int, .temp⟩] "B" _ _
    exP_table rfl rfl rfl rfl rfl (by decide) rfl

-- `record P { x : int; }` alone; `func main() …` then `func () -> int { 0 }`; a nameless item in a block at the hole
example : check ⟨exDecls, .nil⟩ = .error ⟨1, .emptyMainUnit⟩ :=
  rejects_empty_main_unit exDecls (match globalEnv exDecls with | .ok Γ => Γ | .error _ => default) rfl
example : check ⟨exDecls, FuncList.app (.cons (.mk 3 "main" [] .dflt .int (exSeq1 exOne) .nil) .nil)
      (.cons (.mk 4 "" [] .dflt .int (exSeq1 exOne) .nil) .nil)⟩ = .error ⟨4, .funcNoName⟩ :=
  rejects_nameless_function exDecls (match globalEnv exDecls with | .ok Γ => Γ | .error _ => default)
    (match globalEnv exDecls with
      | .ok Γ => (match declFuncs Γ (.cons (.mk 3 "main" [] .dflt .int (exSeq1 exOne) .nil) .nil) with
                  | .ok q => q.1 | .error _ => default)
      | .error _ => default)
    _ _ [⟨[], .const, .int⟩] (.mk 4 "" [] .dflt .int (exSeq1 exOne) .nil) rfl rfl rfl
example : check (exP.plug (.seq 13 (SeqList.app .nil (.cons (.funcs (FuncList.app .nil
      (.cons (.mk 14 "" [] .dflt .int (exSeq1 exOne) .nil) .nil))) (.cons (.expr exOne) .nil)))))
    = .error ⟨14, .funcNoName⟩ :=
  rejects_nameless_function_item exP exTable exTable.push exTable.push 13 .nil _ .nil .nil [] _ exP_table rfl rfl rfl
-- … while the literal `let func () -> int { 1 }` is fine
example : check (exP.plug (.call 13 (.funcLit (.mk 13 "" [] .dflt .int (exSeq1 exOne) .nil)) .nil)) = .ok () := by decide +kernel

/-! ### the hole may sit INSIDE the new constructs (42 frame kinds): a member of a tuple that is
the upper bound of a slice of the piped value of a pipe, the argument of that pipe a row element
of a literal whose projection …  `context_error_propagates` at that depth -/
def exP2 : ProgCtx :=
  { exP with frames := exFrames ++
      [ .pipeA 13 (.id 13 "p") (.id 13 "g") .nil .nil,         -- p |> g( HOLE' )   (arity wrong: irrelevant, the hole is first)
        .projE 13 13 0,                                        -- HOLE''[0]
        .tupleE 13 (.cons exOne .nil) .nil (.cons .dflt .int (.cons .dflt .int .nil)),  -- (1, HOLE''') : (int, int)
        .sliceT 13 (.id 13 "a") [] exOne .nil,                 -- a[1 .. HOLE'''']
        .pipeL 13 (.id 13 "g") .nil,                           -- HOLE |> g()
        .derefA 13 (.cons exOne (.cons exOne .nil)),           -- HOLE[1, 1]
        .arrayE 13 .nil .nil .dflt .int,                       -- [ HOLE ] : int
        .subE (.cons exOne .nil) .nil,                         -- [ 1, HOLE ]
        .rangeF 13 [(exOne, exOne)] exOne .nil ] }              -- [ 1 .. 1, HOLE .. 1 ]

def exΓ2 : Env := match exP2.holeEnv with | .ok Γ => Γ | .error _ => default
/-- none of these frames opens a block: the table is that of `exP` -/
theorem exP2_table : exP2.holeEnv = .ok exTable :=
  (exP.holeEnv_append _).trans (by rw [exP_table]; rfl)
theorem exP2_reaches : exP2.holeEnv = .ok exΓ2 := by
  rw [exΓ2, exP2_table]
example : check (exP2.plug (.id 14 "nosuch")) = .error ⟨14, .undefId⟩ :=
  rejects_undefined_name exP2 exTable 14 "nosuch" exP2_table rfl
example : check (exP2.plug (.ass 14 (.id 14 "q") exOne)) = .error ⟨14, .assignConst⟩ :=
  context_error_propagates exP2 exTable _ _ exP2_table rfl

/-! non-vacuity, enum records:
`enum O { N, S { x : int; y : string; } }  enum Q { S { x : int; y : string; } }  func main() -> int { HOLE }` -/
def exRecDecls : List Decl :=
  [.enum 1 "O" [(1, "N"), (1, "S")], .enumRec 1 "O" "S" [⟨1, "x", .dflt, .int, []⟩, ⟨1, "y", .dflt, .string, []⟩],
   .enum 2 "Q" [(2, "S")], .enumRec 2 "Q" "S" [⟨2, "x", .dflt, .int, []⟩, ⟨2, "y", .dflt, .string, []⟩]]
def exR : ProgCtx :=
  { decls := exRecDecls, fpre := .nil, h := .body 3 "main" [] .dflt .int .nil, fpost := .nil,
    frames := [.seqExpr 3 .nil (.cons (.expr exOne) .nil)] }
def exRΓ : Env := match exR.holeEnv with | .ok Γ => Γ | .error _ => default
def exS (a b : Expr) : Expr := .ctor 4 (.id 4 "O") "S" (.cons a (.cons b .nil))
def exFs : List Field := [⟨"x", .var, .int⟩, ⟨"y", .var, .string⟩]
/-- the symbol table at the hole of `exR`, written out -/
def exRTable : Env :=
  let main : Entry := .func .nil .const .int
  ⟨[("O", ["N", "S"]), ("Q", ["S"])], [("O::S", exFs), ("Q::S", exFs)],
   [[], [("main", main)], [("main", main), ("Q", .enum), ("O", .enum)], stdlibScope]⟩
theorem exR_table : exR.holeEnv = .ok exRTable := rfl
theorem exR_reaches : exR.holeEnv = .ok exRΓ := by
  rw [exRΓ, exR_table]
-- O::S(1, "s") is fine; O::S(1) and O::S("s", "s") and O::N(1) are not
example : check (exR.plug (exS exOne (.litString 4))) = .ok () := by decide +kernel
example : check (exR.plug (.ctor 4 (.id 4 "O") "S" (.cons exOne .nil))) = .error ⟨4, .enumCreate⟩ :=
  rejects_ctor_arity exR exRTable 4 _ "S" "O" _ ⟨.enumId "O", .temp⟩ [(1, ⟨.val .int, .temp⟩)] exFs
    exR_table rfl rfl rfl rfl rfl (by decide)
example : ∃ d, check (exR.plug (exS (.litString 5) (.litString 4))) = .error d ∧
    (d.line = 4 ∨ ∃ a ∈ [(5, (⟨.val .string, .temp⟩ : Comb)), (4, ⟨.val .string, .temp⟩)], d.line = a.1) :=
  rejects_ctor_kind exR exRTable 4 _ "S" "O" _ ⟨.enumId "O", .temp⟩ _ exFs exR_table rfl rfl rfl rfl rfl
    (.inl (by intro h; cases h with | num _ _ _ hb => simp [isNum] at hb))
example : check (exR.plug (.ctor 4 (.id 4 "O") "N" (.cons exOne .nil))) = .error ⟨4, .enumCreate⟩ :=
  rejects_ctor_of_plain_enumerator exR exRTable 4 _ "N" "O" _ ⟨.enumId "O", .temp⟩ [(1, ⟨.val .int, .temp⟩)]
    exR_table rfl rfl rfl rfl rfl
-- match O::S(1, "s") { O::N -> 0; O::S(a, b) -> a; }: the binds are typed from the fields
example : check (exR.plug (.match_ 5 (exS exOne (.litString 4))
    (.cons (.item 6 "O" "N" exOne) (.cons (.recd 7 "O" "S" [(7, "a"), (7, "b")] (.id 7 "a")) .nil)))) = .ok () := by decide +kernel
example : check (exR.plug (.match_ 5 (exS exOne (.litString 4))
    (.cons (.item 6 "O" "N" exOne) (.cons (.recd 7 "O" "S" [(7, "a"), (7, "b")] (.id 7 "b")) .nil))))
    = .error ⟨5, .condBranches⟩ := by decide +kernel
-- one bind for two fields
example : check (exR.plug (.match_ 5 (exS exOne (.litString 4))
    (GuardList.app (.cons (.item 6 "O" "N" exOne) .nil) (.cons (.recd 7 "O" "S" [(7, "a")] (.id 7 "a")) .nil))))
    = .error ⟨7, .guardBinds⟩ :=
  rejects_guard_bind_count exR exRTable 5 7 _ "O" "S" _ _ .nil ⟨.val (.enum "O"), .temp⟩ "O" _ [⟨.val .int, .temp⟩]
    exR_table rfl rfl rfl rfl rfl
example : check (exR.plug (.ifLetRec 5 5 "O" "S" [(5, "a"), (5, "b"), (5, "c")] (exS exOne (.litString 4)) exOne exOne))
    = .error ⟨5, .guardBinds⟩ :=
  rejects_iflet_bind_count exR exRTable 5 5 "O" "S" _ _ _ _ ⟨.val (.enum "O"), .temp⟩ "O" exR_table rfl rfl rfl rfl
example : check (exR.plug (.ifLetRec 5 5 "O" "S" [(5, "a"), (5, "b")] (exS exOne (.litString 4)) (.id 5 "a") exOne)) = .ok () := by decide +kernel
-- O::T(a, b): no such enumerator
example : check (exR.plug (.match_ 5 (exS exOne (.litString 4))
    (GuardList.app .nil (.cons (.recd 7 "O" "T" [(7, "a"), (7, "b")] (.id 7 "a")) .nil)))) = .error ⟨7, .matchGuardItem⟩ :=
  rejects_guard_unknown_enumerator exR exRTable 5 7 _ "O" "T" _ _ .nil ⟨.val (.enum "O"), .temp⟩ "O" .nil [] _
    exR_table rfl rfl rfl rfl
-- Q::S(a, b): same name, same shape, another enum
example : check (exR.plug (.match_ 5 (exS exOne (.litString 4))
    (.cons (.recd 7 "Q" "S" [(7, "a"), (7, "b")] (.id 7 "a")) (.cons (.else_ 8 exOne) .nil)))) = .error ⟨7, .matchGuardDiffers⟩ :=
  rejects_guard_other_enum exR exRTable 5 _ _ _ ⟨.val (.enum "O"), .temp⟩ "O" [⟨.val .int, .var⟩, ⟨.val .int, .temp⟩] _
    exR_table rfl rfl rfl rfl

end Never.C06
